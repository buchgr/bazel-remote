import BR.Lemmas.LruEvict
import BR.Lemmas.ListAux
/-! The accounting invariant of `SizedLRU`, and for every operation one lemma that says all the layers
above observe of it (`Moves`): the invariant is kept, the limits are untouched, the reserved bytes change
by a known amount and the tracked entries by a known list.  Where the callers of an operation match on its result (`get`, `reserve`,
`unreserve`, `drainOne`) its lemma takes the result pair by an equation, `reserve l n = (l', e)` (a statement in projections
supplies `rfl`); `add`, of which the statements above speak through projections only, is stated through projections. -/
namespace BR.Lru
open BR.ListAux

/-- structural part of the invariant (independent of `cur` / `unc`) -/
structure Wf (l : Lru) : Prop where
  keys_nodup : (l.order.map Elem.key).Nodup
  ids_nodup : (l.order.map Elem.id).Nodup
  ids_lt : ∀ e ∈ l.order, e.id < l.nextId
  sizes_nonneg : ∀ e ∈ l.order, 0 ≤ e.val.sizeOnDisk ∧ 0 ≤ e.val.size
  q_eq : l.qsize = sumQueue l.queue
  q_nonneg : ∀ p ∈ l.queue, 0 ≤ p.2.sizeOnDisk
  res_nonneg : 0 ≤ l.res
  /-- `maxSize` is an int64; `sumLargerThan` is exact only below 2^63 (`sumLargerThan_correct`) -/
  max_lt : l.maxSize < 9223372036854775808

/-- the invariant of C03: accounted size = reservations + rounded entries, bounded by `maxSize`;
    logical total exact -/
structure Inv (l : Lru) : Prop extends Wf l where
  cur_eq : l.cur = l.res + sumDisk l.order
  unc_eq : l.unc = sumSize l.order
  cur_le : l.cur ≤ l.maxSize

/-- entries whose file exists: the indexed ones and those queued for the background remover -/
def tracked (l : Lru) : List (String × Item) := qOf l.order ++ l.queue

theorem inv_init (m h : Int) (h0 : 0 ≤ m) (h1 : m < 9223372036854775808) : Inv (init m h) := by
  refine ⟨⟨?_, ?_, ?_, ?_, ?_, ?_, ?_, ?_⟩, ?_, ?_, ?_⟩ <;> simp [init, *]

theorem sumDisk_nonneg {xs : List Elem} (h : ∀ e ∈ xs, 0 ≤ e.val.sizeOnDisk ∧ 0 ≤ e.val.size) :
    0 ≤ sumDisk xs :=
  sum_map_nonneg fun e he => roundUp4k_nonneg (h e he).1

theorem Inv.res_le_cur {l : Lru} (h : Inv l) : l.res ≤ l.cur := by
  have := sumDisk_nonneg h.sizes_nonneg
  have := h.cur_eq; omega

theorem Inv.cur_nonneg {l : Lru} (h : Inv l) : 0 ≤ l.cur :=
  Int.le_trans h.res_nonneg h.res_le_cur

theorem Inv.res_le_max {l : Lru} (h : Inv l) : l.res ≤ l.maxSize :=
  Int.le_trans h.res_le_cur h.cur_le

theorem Inv.qsize_nonneg {l : Lru} (h : Inv l) : 0 ≤ l.qsize := by
  rw [h.q_eq]; exact sum_map_nonneg h.q_nonneg

theorem sumDisk_perm {a b : List Elem} (h : a.Perm b) : sumDisk a = sumDisk b := perm_map_sum _ h
theorem sumSize_perm {a b : List Elem} (h : a.Perm b) : sumSize a = sumSize b := perm_map_sum _ h

/-- the shape shared by eviction, `removeElement` and the overwrite in `Add`: entries `mv` go to the queue -/
theorem Wf.move {l : Lru} (h : Wf l) {o mv : List Elem} (hs : o.Sublist l.order) (hm : ∀ e ∈ mv, e ∈ l.order)
    {c u r qs : Int} (hr : 0 ≤ r) (hq : qs = l.qsize + sumQueue (qOf mv)) :
    Wf { l with order := o, cur := c, unc := u, res := r, queue := l.queue ++ qOf mv, qsize := qs } where
  keys_nodup := (hs.map _).nodup h.keys_nodup
  ids_nodup := (hs.map _).nodup h.ids_nodup
  ids_lt e he := h.ids_lt e (hs.subset he)
  sizes_nonneg e he := h.sizes_nonneg e (hs.subset he)
  q_eq := by simp [hq, h.q_eq]
  q_nonneg p hp := by
    rcases List.mem_append.mp hp with hp | hp
    · exact h.q_nonneg p hp
    · obtain ⟨e, he, rfl⟩ := List.mem_map.mp hp
      exact (h.sizes_nonneg e (hm e he)).1
  res_nonneg := hr
  max_lt := h.max_lt

/-- a new entry takes `nextId` as its id and advances it (`next = nextId + 1`); an overwrite keeps both -/
theorem Wf.push {l : Lru} (h : Wf l) (e : Elem) (hk : e.key ∉ l.order.map Elem.key)
    (hid : e.id ∉ l.order.map Elem.id) {next : Nat} (hn : l.nextId ≤ next) (hlt : e.id < next)
    (hv : 0 ≤ e.val.sizeOnDisk ∧ 0 ≤ e.val.size) :
    Wf { l with order := l.order ++ [e], nextId := next } where
  keys_nodup := nodup_map_concat h.keys_nodup hk
  ids_nodup := nodup_map_concat h.ids_nodup hid
  ids_lt x hx := by
    rcases List.mem_append.mp hx with hx | hx
    · exact Nat.lt_of_lt_of_le (h.ids_lt x hx) hn
    · rw [List.mem_singleton.mp hx]; exact hlt
  sizes_nonneg x hx := by
    rcases List.mem_append.mp hx with hx | hx
    · exact h.sizes_nonneg x hx
    · rw [List.mem_singleton.mp hx]; exact hv
  q_eq := h.q_eq
  q_nonneg := h.q_nonneg
  res_nonneg := h.res_nonneg
  max_lt := h.max_lt

theorem Inv.perm {l : Lru} (h : Inv l) {o : List Elem} (hp : o.Perm l.order) : Inv { l with order := o } where
  keys_nodup := (hp.map _).nodup_iff.mpr h.keys_nodup
  ids_nodup := (hp.map _).nodup_iff.mpr h.ids_nodup
  ids_lt e he := h.ids_lt e (hp.subset he)
  sizes_nonneg e he := h.sizes_nonneg e (hp.subset he)
  q_eq := h.q_eq
  q_nonneg := h.q_nonneg
  res_nonneg := h.res_nonneg
  max_lt := h.max_lt
  cur_eq := (sumDisk_perm hp).symm ▸ h.cur_eq
  unc_eq := (sumSize_perm hp).symm ▸ h.unc_eq
  cur_le := h.cur_le

theorem qOf_perm {a b : List Elem} (h : a.Perm b) : (qOf a).Perm (qOf b) := h.map _

/-- `l'` arises from `l` by index operations: the invariant holds again, the limits are the same, `n` more
    bytes are reserved, and the entries `new` are tracked in addition (the others at most moved from the
    index to the removal queue).  It says nothing of the recency order or of which tracked entries are still
    indexed; `LruOrder` has those facts, per operation. -/
structure Moves (l l' : Lru) (n : Int) (new : List (String × Item)) : Prop where
  inv : Inv l'
  maxSize : l'.maxSize = l.maxSize
  hardLimit : l'.hardLimit = l.hardLimit
  res : l'.res = l.res + n
  tracked : (tracked l').Perm (new ++ tracked l)

theorem Moves.refl {l : Lru} (h : Inv l) : Moves l l 0 [] := ⟨h, rfl, rfl, (Int.add_zero _).symm, .refl _⟩

theorem Moves.trans {a b c : Lru} {n m : Int} {x y : List (String × Item)} (h1 : Moves a b n x)
    (h2 : Moves b c m y) : Moves a c (n + m) (y ++ x) :=
  ⟨h2.inv, h2.maxSize.trans h1.maxSize, h2.hardLimit.trans h1.hardLimit, by rw [h2.res, h1.res]; omega,
    h2.tracked.trans (by rw [List.append_assoc]; exact h1.tracked.append_left y)⟩

theorem Moves.cast {l l' : Lru} {n m : Int} {x y : List (String × Item)} (h : Moves l l' n x) (hn : n = m)
    (hx : x = y) : Moves l l' m y := hn ▸ hx ▸ h

theorem tracked_evictK (l : Lru) (k : Nat) : (tracked (evictK l k)).Perm (tracked l) := by
  have : tracked l = qOf (l.order.take k) ++ (qOf (l.order.drop k) ++ l.queue) := by
    rw [tracked, ← List.append_assoc, ← qOf_append, List.take_append_drop]
  rw [this]
  exact (List.perm_append_comm.append_left _).trans (List.perm_append_comm_assoc ..)

/-- `c u r`: the counters as the caller sets them after the loop (it adds the bytes it asked room for) -/
theorem inv_evictK {l : Lru} (h : Wf l) (k : Nat) {c u r : Int} (hr : 0 ≤ r)
    (hc : c = r + sumDisk (l.order.drop k)) (hu : u = sumSize (l.order.drop k)) (hle : c ≤ l.maxSize) :
    Inv { evictK l k with cur := c, unc := u, res := r } :=
  { toWf := h.move (List.drop_sublist k _) (fun _ => List.mem_of_mem_take) hr rfl,
    cur_eq := hc, unc_eq := hu, cur_le := hle }

theorem find?_eq_none {l : Lru} {k : String} : find? l k = none ↔ k ∉ l.order.map Elem.key := by
  simp [find?]

theorem perm_of_find {l : Lru} {k : String} {ee : Elem} (h : Wf l) (hf : find? l k = some ee) :
    l.order.Perm (ee :: l.order.filter (fun e => !(e.key == k))) ∧ ee ∈ l.order ∧ ee.key = k := by
  obtain ⟨hm, hk⟩ := find?_key Elem.key k hf
  exact ⟨hk ▸ perm_cons_filter_of_mem Elem.key l.order ee hm h.keys_nodup, hm, hk⟩

/-- stated for the result pair by an equation, the form in which the walks through the callers of `Get` meet it -/
theorem moves_get {l l' : Lru} (h : Inv l) {k : String} {o : Option Elem} (hg : get l k = (l', o)) : Moves l l' 0 [] := by
  unfold get at hg
  split at hg <;> cases hg
  · rename_i e hf
    have hp : (l.order.filter (fun x => !(x.key == k)) ++ [e]).Perm l.order :=
      List.perm_append_comm.trans (perm_of_find h.toWf hf).1.symm
    exact ⟨h.perm hp, rfl, rfl, (Int.add_zero _).symm, (qOf_perm hp).append_right _⟩
  · exact .refl h

theorem moves_removeElem {l : Lru} (h : Inv l) {e : Elem} (he : e ∈ l.order) : Moves l (removeElem l e) 0 [] := by
  have hp := perm_cons_filter_of_mem Elem.id l.order e he h.ids_nodup
  have hd := sumDisk_perm hp
  have hs := sumSize_perm hp
  have hr : 0 ≤ e.rdisk := roundUp4k_nonneg (h.sizes_nonneg e he).1
  have := h.cur_eq; have := h.unc_eq; have := h.cur_le
  simp only [sumDisk_cons, sumSize_cons] at hd hs
  refine ⟨{ toWf := h.toWf.move List.filter_sublist (mv := [e]) (by simpa using he) h.res_nonneg (by simp),
            cur_eq := ?_, unc_eq := ?_, cur_le := ?_ }, rfl, rfl, (Int.add_zero _).symm, ?_⟩
  · simp only [removeElem, enqueue]; omega
  · simp only [removeElem, enqueue]; omega
  · simp only [removeElem, enqueue]; omega
  · show (qOf _ ++ (l.queue ++ [(e.key, e.val)])).Perm (qOf l.order ++ l.queue)
    rw [← List.append_assoc]
    exact List.perm_append_comm.trans ((qOf_perm hp).symm.append_right _)

theorem moves_removeKey {l : Lru} (h : Inv l) (k : String) : Moves l (removeKey l k) 0 [] := by
  unfold removeKey
  split
  · exact moves_removeElem h (find?_key Elem.key k ‹_›).1
  · exact .refl h

theorem moves_removeElemId {l : Lru} (h : Inv l) (id : Nat) : Moves l (removeElemId l id) 0 [] := by
  unfold removeElemId
  split
  · exact moves_removeElem h (find?_key Elem.id id ‹_›).1
  · exact .refl h

theorem unreserve_eq (l : Lru) (n : Int) :
    unreserve l n =
      if 0 < n ∧ n ≤ l.cur ∧ n ≤ l.res then ({ l with cur := l.cur - n, res := l.res - n }, true) else (l, n == 0) := by
  unfold unreserve
  by_cases hc : 0 < n ∧ n ≤ l.cur ∧ n ≤ l.res
  · have h0 : ¬ n = 0 := by omega
    have h1 : ¬ n < 0 := by omega
    have h2 : ¬ (l.cur - n < 0 ∨ l.res - n < 0) := by omega
    simp [hc, h0, h1, h2]
  · by_cases h0 : n = 0
    · simp [h0]
    by_cases h1 : n < 0
    · simp [hc, h0, h1]
    · have h2 : l.cur - n < 0 ∨ l.res - n < 0 := by omega
      simp [hc, h0, h1, h2]

theorem moves_unreserve {l l' : Lru} (h : Inv l) {n : Int} {ok : Bool} (hu : unreserve l n = (l', ok)) :
    Moves l l' (if ok then -n else 0) [] := by
  rw [unreserve_eq] at hu
  split at hu <;> cases hu
  · refine ⟨{ h with res_nonneg := ?_, cur_eq := ?_, cur_le := ?_ }, rfl, rfl, rfl, .refl _⟩
    · simp only; omega
    · have := h.cur_eq; simp only; omega
    · have := h.cur_le; simp only; omega
  · by_cases h0 : n = 0 <;> simpa [h0] using .refl h

theorem reserve_eq (l : Lru) (n : Int) :
    reserve l n =
      if n = 0 then (l, none)
      else if n < 0 then (l, some .badRequest)
      else if n > l.maxSize then (l, some .badRequest)
      else if sumLargerThan n l.res l.maxSize then (l, some .insufficientReserved)
      else if 0 < l.hardLimit ∧ totalDiskSize l n > u64 l.hardLimit then (l, some .insufficientHard)
      else
        let l2 := evictK l (evictCount (fun cur => sumLargerThan n cur l.maxSize) l.order l.cur)
        if sumLargerThan n l2.cur l.maxSize then (l2, some .internal)
        else ({ l2 with cur := l2.cur + n, res := l2.res + n }, none) := by
  unfold reserve
  rw [evictLoop_eq]
  simp only [beq_iff_eq, gt_iff_lt, Bool.and_eq_true, decide_eq_true_eq]
  generalize evictK l _ = l2
  by_cases h : sumLargerThan n l2.cur l.maxSize = true <;> simp only [h, if_true, if_false, Bool.false_eq_true]

/-- `Reserve` under the invariant: a refusal leaves the index as it is; a grant evicts the `k` least recently used
    entries, `k` the least count that makes room.  The loop never runs dry, so the internal error is unreachable. -/
theorem reserve_spec {l : Lru} (h : Inv l) (n : Int) :
    (∃ e, reserve l n = (l, e) ∧ e ≠ some .internal ∧ (e = none → n = 0)) ∨
    (0 < n ∧ ∃ k,
      reserve l n = ({ evictK l k with cur := (evictK l k).cur + n, res := l.res + n }, none) ∧
      (∀ j, j < k → n + (l.cur - sumDisk (l.order.take j)) > l.maxSize) ∧
      n + (evictK l k).cur ≤ l.maxSize) := by
  -- `by_cases` and `rw [if_pos _]` rather than `split`, which is slow on a chain of this size
  have hr := reserve_eq l n
  by_cases h0 : n = 0
  · rw [if_pos h0] at hr; exact .inl ⟨_, hr, by simp, fun _ => h0⟩
  by_cases hneg : n < 0
  · rw [if_neg h0, if_pos hneg] at hr; exact .inl ⟨_, hr, by simp, by simp⟩
  by_cases hbig : n > l.maxSize
  · rw [if_neg h0, if_neg hneg, if_pos hbig] at hr; exact .inl ⟨_, hr, by simp, by simp⟩
  by_cases hsl : sumLargerThan n l.res l.maxSize = true
  · rw [if_neg h0, if_neg hneg, if_neg hbig, if_pos hsl] at hr; exact .inl ⟨_, hr, by simp, by simp⟩
  by_cases hhard : 0 < l.hardLimit ∧ totalDiskSize l n > u64 l.hardLimit
  · rw [if_neg h0, if_neg hneg, if_neg hbig, if_neg hsl, if_pos hhard] at hr; exact .inl ⟨_, hr, by simp, by simp⟩
  rw [if_neg h0, if_neg hneg, if_neg hbig, if_neg hsl, if_neg hhard] at hr
  have hn : 0 < n := by omega
  have hmax := h.max_lt; have hcl := h.cur_le; have hce := h.cur_eq; have hr0 := h.res_nonneg
  have hrc := h.res_le_cur
  rw [sumLargerThan_correct n l.res l.maxSize hn hr0 (by omega) (by omega) hmax] at hsl
  -- the overflow-safe comparison is exact on every size the loop sees
  have hex : ∀ j, sumLargerThan n (l.cur - sumDisk (l.order.take j)) l.maxSize =
      decide (l.cur - sumDisk (l.order.take j) + n > l.maxSize) := fun j => by
    have := sumDisk_take_drop l.order j
    have := sumDisk_nonneg (xs := l.order.drop j) fun e he => h.sizes_nonneg e (List.mem_of_mem_drop he)
    have := sumDisk_nonneg (xs := l.order.take j) fun e he => h.sizes_nonneg e (List.mem_of_mem_take he)
    rw [sumLargerThan_correct n _ l.maxSize hn (by omega) (by omega) (by omega) hmax, Int.add_comm]
  obtain ⟨hj, hfit⟩ := evictCount_fits (over := fun cur => sumLargerThan n cur l.maxSize) hex (r := l.res + n)
    (by omega) (by simp at hsl; omega)
  refine .inr ⟨hn, _, ?_, fun j hj' => by have := hj j hj'; omega, by simp only [evictK]; omega⟩
  rw [hr]
  have hov := hex (evictCount (fun cur => sumLargerThan n cur l.maxSize) l.order l.cur)
  rw [decide_eq_false (Int.not_lt.mpr hfit)] at hov
  simp only [evictK, hov]; rfl

theorem moves_reserve {l l' : Lru} (h : Inv l) {n : Int} {e : Option Err} (hr : reserve l n = (l', e)) :
    e ≠ some .internal ∧ Moves l l' (if e = none then n else 0) [] := by
  rcases reserve_spec h n with ⟨e, hr0, hi, h0⟩ | ⟨hn, k, hr0, _, hle⟩ <;> cases hr0.symm.trans hr
  · refine ⟨hi, ?_⟩
    cases e with
    | some e => simpa using .refl h
    | none => simpa [h0 rfl] using .refl h
  · have := sumDisk_take_drop l.order k; have := sumSize_take_drop l.order k
    have := h.cur_eq; have := h.unc_eq; have := h.res_nonneg
    exact ⟨by simp, inv_evictK h.toWf k (by omega) (by simp only [evictK]; omega) (by simp only [evictK]; omega)
      (by omega), rfl, rfl, rfl, tracked_evictK l k⟩

/-- the recency list `Add` works on: the (possibly overwritten) entry at the most-recent end -/
def addOrder (l : Lru) (k : String) (v : Item) : List Elem :=
  match find? l k with
  | some ee => l.order.filter (fun e => !(e.key == k)) ++ [{ ee with val := v }]
  | none => l.order ++ [{ id := l.nextId, key := k, val := v }]

/-- the change of the accounted size `Add` has to fit -/
def addDelta (l : Lru) (k : String) (v : Item) : Int :=
  match find? l k with
  | some ee => roundUp4k v.sizeOnDisk - roundUp4k ee.val.sizeOnDisk
  | none => roundUp4k v.sizeOnDisk

/-- what an overwrite hands to the background remover first: the previous version -/
def addOldQ (l : Lru) (k : String) : List (String × Item) :=
  match find? l k with
  | some ee => [(k, ee.val)]
  | none => []

/-- the change of the logical total -/
def addUnc (l : Lru) (k : String) (v : Item) : Int :=
  match find? l k with
  | some ee => roundUp4k v.size - roundUp4k ee.val.size
  | none => roundUp4k v.size

/-- the index when `Add`'s eviction loop starts -/
def addStart (l : Lru) (k : String) (v : Item) : Lru :=
  { l with order := addOrder l k v, queue := l.queue ++ addOldQ l k, qsize := l.qsize + sumQueue (addOldQ l k),
           nextId := if (find? l k).isSome then l.nextId else l.nextId + 1 }

theorem addOrder_of_none {l : Lru} {k : String} (hf : find? l k = none) (v : Item) :
    addOrder l k v = l.order ++ [⟨l.nextId, k, v⟩] := by unfold addOrder; rw [hf]
theorem addDelta_of_none {l : Lru} {k : String} (hf : find? l k = none) (v : Item) :
    addDelta l k v = roundUp4k v.sizeOnDisk := by unfold addDelta; rw [hf]

@[simp] theorem addStart_order (l : Lru) (k : String) (v : Item) : (addStart l k v).order = addOrder l k v := rfl
@[simp] theorem addStart_cur (l : Lru) (k : String) (v : Item) : (addStart l k v).cur = l.cur := rfl
@[simp] theorem addStart_unc (l : Lru) (k : String) (v : Item) : (addStart l k v).unc = l.unc := rfl

theorem add_eq (l : Lru) (k : String) (v : Item) :
    add l k v =
      if roundUp4k v.sizeOnDisk ≤ l.maxSize ∧ l.res + addDelta l k v ≤ l.maxSize then
        let l2 := evictK (addStart l k v)
          (evictCount (fun cur => cur + addDelta l k v > l.maxSize) (addOrder l k v) l.cur)
        if l2.cur + addDelta l k v > l.maxSize then (l2, .stuck)
        else ({ l2 with cur := l2.cur + addDelta l k v, unc := l2.unc + addUnc l k v }, .ok)
      else (l, .refused) := by
  suffices h : add l k v = if roundUp4k v.sizeOnDisk ≤ l.maxSize ∧ l.res + addDelta l k v ≤ l.maxSize then
      addFinish l.maxSize (addStart l k v) (addDelta l k v) (addUnc l k v) else (l, .refused) by
    rw [h, addFinish_eq]; rfl
  unfold add addStart addOrder addDelta addOldQ addUnc
  by_cases h1 : roundUp4k v.sizeOnDisk > l.maxSize
  · simp [h1, Int.not_le.mpr h1]
  cases find? l k with
  | some ee =>
    by_cases h2 : l.res + (roundUp4k v.sizeOnDisk - roundUp4k ee.val.sizeOnDisk) > l.maxSize
    · simp [h1, h2, Int.not_le.mpr h2]
    · simp [h1, h2, Int.not_lt.mp h1, Int.not_lt.mp h2]
  | none =>
    by_cases h2 : l.res + roundUp4k v.sizeOnDisk > l.maxSize
    · simp [h1, h2, Int.not_le.mpr h2]
    · simp [h1, h2, Int.not_lt.mp h1, Int.not_lt.mp h2]

theorem addStart_spec {l : Lru} (h : Wf l) (k : String) (v : Item) :
    (0 ≤ v.sizeOnDisk ∧ 0 ≤ v.size → Wf (addStart l k v)) ∧
    (tracked (addStart l k v)).Perm ((k, v) :: tracked l) ∧
    sumDisk (addOrder l k v) = sumDisk l.order + addDelta l k v ∧
    sumSize (addOrder l k v) = sumSize l.order + addUnc l k v := by
  unfold addStart addOrder addDelta addOldQ addUnc tracked
  cases hf : find? l k with
  | none =>
    have hk := find?_eq_none.mp hf
    have hid : l.nextId ∉ l.order.map Elem.id := fun hm => by
      obtain ⟨e, he, hid⟩ := List.mem_map.mp hm
      exact absurd (h.ids_lt e he) (by omega)
    simp only [List.append_nil, sumQueue_nil, Int.add_zero, Option.isSome_none, Bool.false_eq_true, if_false]
    exact ⟨h.push ⟨l.nextId, k, v⟩ hk hid (Nat.le_succ _) (Nat.lt_succ_self _), by simp, by simp [Elem.rdisk],
      by simp [Elem.rsize]⟩
  | some ee =>
    obtain ⟨hp, hm, rfl⟩ := perm_of_find h hf
    have hd := sumDisk_perm hp; have hs := sumSize_perm hp; have hq := qOf_perm hp
    have hkn := (hp.map Elem.key).nodup_iff.mp h.keys_nodup
    have hin := (hp.map Elem.id).nodup_iff.mp h.ids_nodup
    simp only [List.map_cons, List.nodup_cons, sumDisk_cons, sumSize_cons, qOf_cons] at hkn hin hd hs hq
    refine ⟨(h.move List.filter_sublist (mv := [ee]) (by simpa using hm) h.res_nonneg rfl).push
      { ee with val := v } hkn.1 hin.1 (Nat.le_refl _) (h.ids_lt ee hm), ?_, ?_, ?_⟩
    · -- a reordering of the same entries: compare how often each occurs
      rw [List.perm_iff_count] at hq ⊢
      intro x
      have := hq x
      simp only [qOf_append, qOf_cons, qOf_nil, List.count_append, List.count_cons, List.count_nil] at this ⊢
      omega
    · simp [hd, Elem.rdisk]; omega
    · simp [hs, Elem.rsize]; omega

theorem moves_add {l : Lru} (h : Inv l) (k : String) (v : Item) (hv : 0 ≤ v.sizeOnDisk ∧ 0 ≤ v.size) :
    (add l k v).2 ≠ .stuck ∧ Moves l (add l k v).1 0 (if (add l k v).2 = .ok then [(k, v)] else []) := by
  rw [add_eq]
  split
  case isFalse => exact ⟨by simp, by simpa using .refl h⟩
  obtain ⟨hwf, ht, hd, hs⟩ := addStart_spec h.toWf k v
  have := h.cur_eq; have := h.unc_eq
  obtain ⟨_, hfit⟩ := evictCount_fits (over := fun cur => cur + addDelta l k v > l.maxSize) (xs := addOrder l k v)
    (cur := l.cur) (fun _ => rfl) (r := l.res) (by omega) h.res_le_max
  generalize evictCount _ (addOrder l k v) l.cur = n at hfit ⊢
  have := sumDisk_take_drop (addOrder l k v) n; have := sumSize_take_drop (addOrder l k v) n
  have hov : ¬ (evictK (addStart l k v) n).cur + addDelta l k v > l.maxSize := Int.not_lt.mpr hfit
  rw [if_neg hov]
  exact ⟨by simp, inv_evictK (r := l.res) (hwf hv) n h.res_nonneg (by simp [evictK]; omega) (by simp [evictK]; omega) hfit, rfl, rfl,
    (Int.add_zero _).symm, (tracked_evictK _ n).trans ht⟩

theorem drainOne_cases (l : Lru) :
    drainOne l = (l, none) ∧ l.queue = [] ∨
    ∃ p rest, l.queue = p :: rest ∧ drainOne l = ({ l with queue := rest, qsize := l.qsize - p.2.sizeOnDisk }, some p) := by
  unfold drainOne
  split
  · exact .inl ⟨rfl, ‹_›⟩
  · exact .inr ⟨_, _, ‹_›, rfl⟩

theorem inv_drainOne {l l' : Lru} (h : Inv l) {o : Option (String × Item)} (hd : drainOne l = (l', o)) : Inv l' := by
  rcases drainOne_cases l with ⟨hd0, _⟩ | ⟨p, rest, hq, hd0⟩ <;> cases hd0.symm.trans hd
  · exact h
  · exact { h with q_eq := by simp [h.q_eq, hq]; omega, q_nonneg := fun x hx => h.q_nonneg x (by simp [hq, hx]) }

/-- the remover's step read backwards: the index before it tracks `p` in addition -/
theorem moves_of_drainOne {l l' : Lru} (h : Inv l) {p : String × Item} (hd : drainOne l = (l', some p)) :
    Moves l' l 0 [p] := by
  rcases drainOne_cases l with ⟨e, _⟩ | ⟨q, rest, hq, e⟩ <;> cases e.symm.trans hd
  exact ⟨h, rfl, rfl, (Int.add_zero _).symm, by simp only [tracked, hq]; exact List.perm_middle⟩

theorem inv_drainAll {l : Lru} (h : Inv l) : Inv (drainAll l) :=
  { h with q_eq := by simp [drainAll, h.q_eq], q_nonneg := fun x hx => by cases hx }

/-- the only precondition on operations: stored items have non-negative sizes -/
def Op.Wf : Op → Prop
  | .add _ v => 0 ≤ v.sizeOnDisk ∧ 0 ≤ v.size
  | _ => True

theorem step_spec {l : Lru} (h : Inv l) (op : Op) (hop : op.Wf) :
    Inv (step l op).1 ∧ (step l op).1.maxSize = l.maxSize := by
  have of_moves : ∀ {l' n new}, Moves l l' n new → Inv l' ∧ l'.maxSize = l.maxSize := fun m => ⟨m.inv, m.maxSize⟩
  cases op with
  | add k v => exact of_moves (moves_add h k v hop).2
  | get k => exact of_moves (moves_get h rfl)
  | removeKey k => exact of_moves (moves_removeKey h k)
  | removeElemId id => exact of_moves (moves_removeElemId h id)
  | reserve n => exact of_moves (moves_reserve h rfl).2
  | unreserve n => exact of_moves (moves_unreserve h rfl)
  | drainOne => exact ⟨inv_drainOne h rfl, by rcases drainOne_cases l with ⟨hd, _⟩ | ⟨_, _, _, hd⟩ <;> simp [step, hd]⟩

theorem inv_step {l : Lru} (h : Inv l) (op : Op) (hop : op.Wf) : Inv (step l op).1 := (step_spec h op hop).1

theorem run_spec {l : Lru} (h : Inv l) (ops : List Op) (hops : ∀ op ∈ ops, op.Wf) :
    Inv (run l ops) ∧ (run l ops).maxSize = l.maxSize := by
  induction ops generalizing l with
  | nil => exact ⟨h, rfl⟩
  | cons op rest ih =>
    obtain ⟨hi, hm⟩ := step_spec h op (hops op (by simp))
    obtain ⟨hi', hm'⟩ := ih hi fun o ho => hops o (by simp [ho])
    exact ⟨hi', hm'.trans hm⟩

theorem inv_run {l : Lru} (h : Inv l) (ops : List Op) (hops : ∀ op ∈ ops, op.Wf) : Inv (run l ops) :=
  (run_spec h ops hops).1

end BR.Lru
