import BR.Model.Load
import BR.Lemmas.LruOrder
/-! M6, the index rebuild of `loadExistingFiles`.  Of the files that fit one by one the loop keeps the
longest most recent tail that fits as a whole (`FitTail`): an accepted `Add` cuts such a tail
(`add_fitTail`; for a new key the list cut is the old one with the key at its end, `add_new`), and
cutting twice is cutting once (`FitTail.snoc`). -/
namespace BR.Load
open BR.Lru BR.ListAux

theorem scanOne_eq {f : DirFile} {p : ParsedName} (hp : parseName (migratedName f) = some p) :
    scanOne f = some
      { key := kindStr f.kind ++ "/" ++ p.hash,
        item := { size := p.size.getD f.length, sizeOnDisk := f.length, random := p.random, legacy := p.legacy },
        atime := f.atime } := by
  rw [scanOne, hp]; rfl

theorem sortByAtime_perm (fs : List Scanned) : (sortByAtime fs).Perm fs := List.mergeSort_perm _ _

theorem mem_sortByAtime {fs : List Scanned} {f : Scanned} : f ∈ sortByAtime fs ↔ f ∈ fs := List.mem_mergeSort

theorem loadStep_eq (st : Lru × List Scanned) (f : Scanned) :
    loadStep st f =
      ((add st.1 f.key f.item).1, if (add st.1 f.key f.item).2 = .ok then st.2 else st.2 ++ [f]) := by
  unfold loadStep
  cases add st.1 f.key f.item with
  | mk l' o => cases o <;> rfl

theorem pairs_eq_qOf (l : Lru) : pairs l = qOf l.order := rfl

theorem sumDisk_eq_sumP (xs : List Elem) : sumDisk xs = sumP (qOf xs) := by
  simp only [sumDisk, sumP, qOf, List.map_map]
  rfl

@[simp] theorem sumP_cons (p : String × Item) (ps) : sumP (p :: ps) = roundUp4k p.2.sizeOnDisk + sumP ps := by
  simp [sumP]

theorem sumP_append (a b : List (String × Item)) : sumP (a ++ b) = sumP a + sumP b := by
  simp [sumP, List.sum_append]

theorem sumP_take_drop (xs : List (String × Item)) (k : Nat) : sumP (xs.take k) + sumP (xs.drop k) = sumP xs := by
  rw [← sumP_append, List.take_append_drop]

theorem sumP_perm {a b : List (String × Item)} (h : a.Perm b) : sumP a = sumP b := perm_map_sum _ h

theorem mem_le_sumP {ps : List (String × Item)} (hnn : ∀ p ∈ ps, 0 ≤ p.2.sizeOnDisk) {p : String × Item} (hp : p ∈ ps) :
    roundUp4k p.2.sizeOnDisk ≤ sumP ps :=
  le_sum_map _ (fun q hq => roundUp4k_nonneg (hnn q hq)) hp

/-- `ys` is what is left of `xs` (oldest first) after dropping the least number of oldest entries
that makes the accounted size fit into `M`. -/
def FitTail (M : Int) (xs ys : List (String × Item)) : Prop :=
  ∃ n, n ≤ xs.length ∧ ys = xs.drop n ∧ (∀ j, j < n → sumP (xs.drop j) > M) ∧ sumP (xs.drop n) ≤ M

theorem FitTail.sublist {M : Int} {xs ys} (h : FitTail M xs ys) : ys.Sublist xs := by
  obtain ⟨n, _, rfl, _, _⟩ := h
  exact List.drop_sublist n xs

theorem FitTail.eq_self {M : Int} {xs ys} (h : FitTail M xs ys) (hfit : sumP xs ≤ M) : ys = xs := by
  obtain ⟨n, _, rfl, hlo, _⟩ := h
  cases n with
  | zero => rfl
  | succ n => have := hlo 0 (Nat.succ_pos n); rw [List.drop_zero] at this; omega

theorem FitTail.snoc {M : Int} {xs ys zs} {p : String × Item} (h : FitTail M xs ys)
    (hp : 0 ≤ roundUp4k p.2.sizeOnDisk) (h' : FitTail M (ys ++ [p]) zs) : FitTail M (xs ++ [p]) zs := by
  obtain ⟨n, hn, rfl, hlo, _⟩ := h
  obtain ⟨m, hm, rfl, hlo', hhi'⟩ := h'
  have e : ∀ i, (xs.drop n ++ [p]).drop i = (xs ++ [p]).drop (n + i) := fun i => by
    rw [← List.drop_drop, List.drop_append_of_le_length hn]
  refine ⟨n + m, ?_, e m, ?_, e m ▸ hhi'⟩
  · simp only [List.length_append, List.length_drop, List.length_singleton] at hm ⊢; omega
  · intro j hj
    by_cases hjn : j < n
    · -- a tail that reaches further back than `ys` is too large already without `p`
      have := hlo j hjn
      rw [List.drop_append_of_le_length (by omega), sumP_append, sumP_cons]
      have : sumP [] = 0 := rfl
      omega
    · have := hlo' (j - n) (by omega)
      rwa [e, show n + (j - n) = j by omega] at this

/-- An accepted `Add` while no request holds a reservation (`res = 0`, as during start-up) leaves the
longest tail that fits of the order it starts from (`addOrder`: the old order with the entry for
`k`, now holding `v`, at the recent end).  `add_ok_rest` in the loader's terms. -/
theorem add_fitTail {l : Lru} (h : Inv l) (hres : l.res = 0) {k : String} {v : Item} (hok : (add l k v).2 = .ok) :
    FitTail l.maxSize (qOf (addOrder l k v)) (pairs (add l k v).1) := by
  obtain ⟨n, hn, ho, hlo, hhi⟩ := add_ok_rest h k v hok
  have hq : ∀ j, qOf ((addOrder l k v).drop j) = (qOf (addOrder l k v)).drop j := fun j => List.map_drop
  simp only [hres, Int.zero_add, sumDisk_eq_sumP, hq] at hlo hhi
  exact ⟨n, by simpa [qOf] using hn, by rw [pairs_eq_qOf, ho, hq], hlo, hhi⟩

theorem add_new {l : Lru} (h : Inv l) (hres : l.res = 0) {k : String} {v : Item}
    (hv : 0 ≤ v.sizeOnDisk ∧ 0 ≤ v.size) (hf : find? l k = none) (hfit : roundUp4k v.sizeOnDisk ≤ l.maxSize) :
    (add l k v).2 = .ok ∧ FitTail l.maxSize (pairs l ++ [(k, v)]) (pairs (add l k v).1) := by
  have hok : (add l k v).2 = .ok :=
    (add_ok_iff h k v hv).mpr ⟨hfit, by rw [hres, addDelta_of_none hf]; omega⟩
  have ht := add_fitTail h hres hok
  rw [addOrder_of_none hf] at ht
  exact ⟨hok, by simpa [qOf, pairs] using ht⟩

/-- the files that individually fit, as (key, item) pairs in the given order -/
def L (M : Int) (done : List Scanned) : List (String × Item) := (done.filter (fits M)).map pairOf

/- The loop invariant after the files `done`, in the order given.  `queue`: only files that fit were ever indexed, so only
such files wait for the remover (the `∃ q` names the queue and nothing more); `removed`: the files `Add` refused, those too
large on their own; `shape`: `FitTail M (L M done) (pairs st.1)` written out (`LoadInv.fitTail`), as C09 states it. -/
structure LoadInv (M : Int) (done : List Scanned) (st : Lru × List Scanned) : Prop where
  inv : Inv st.1
  res0 : st.1.res = 0
  max : st.1.maxSize = M
  queue : ∃ q, st.1.queue = q ∧ ∀ p ∈ q, p ∈ L M done
  removed : st.2 = done.filter (fun f => !fits M f)
  shape : ∃ n, n ≤ (L M done).length ∧ pairs st.1 = (L M done).drop n ∧
    (∀ j, j < n → sumP ((L M done).drop j) > M) ∧ sumP ((L M done).drop n) ≤ M

theorem L_snoc (M : Int) (done : List Scanned) (f : Scanned) :
    L M (done ++ [f]) = L M done ++ if fits M f then [pairOf f] else [] := by
  cases h : fits M f <;> simp [L, List.filter_append, h]

theorem L_eq_map {M : Int} {S : List Scanned} (h : ∀ f ∈ S, fits M f = true) : L M S = S.map pairOf := by
  rw [L, List.filter_eq_self.mpr h]

theorem L_keys_subset (M : Int) (done : List Scanned) : (L M done).map (·.1) ⊆ done.map (·.key) := by
  intro k h
  simp only [L, List.map_map, List.mem_map, List.mem_filter] at h ⊢
  obtain ⟨f, ⟨hf, _⟩, rfl⟩ := h
  exact ⟨f, hf, rfl⟩

theorem LoadInv.fitTail {M done st} (h : LoadInv M done st) : FitTail M (L M done) (pairs st.1) := h.shape

theorem LoadInv.tracked_subset {M done st} (h : LoadInv M done st) : tracked st.1 ⊆ L M done := by
  obtain ⟨q, hq, hqm⟩ := h.queue
  intro p hp
  rcases List.mem_append.mp hp with hp | hp
  · exact h.fitTail.sublist.subset hp
  · exact hqm p (hq ▸ hp)

/-- `hk`: the file's key is new.  With a key seen before, `Add` would replace the older entry and
`L` would have to leave it out; `loadSorted_tracked` is what holds without `hk`. -/
theorem loadStep_inv {M : Int} {done : List Scanned} {st : Lru × List Scanned} {f : Scanned}
    (h : LoadInv M done st) (hk : f.key ∉ done.map (·.key)) (hv : 0 ≤ f.item.sizeOnDisk ∧ 0 ≤ f.item.size) :
    LoadInv M (done ++ [f]) (loadStep st f) := by
  have hL := L_snoc M done f
  rw [loadStep_eq]
  cases hfit : fits M f with
  | false =>
    -- too large on its own: `Add` refuses, the index stays, `L` does not grow
    have hbig : roundUp4k f.item.sizeOnDisk > st.1.maxSize := by rw [h.max]; simpa [fits] using hfit
    simp only [hfit, Bool.false_eq_true, if_false, List.append_nil] at hL
    simp only [add_oversize _ _ _ hbig, if_false, reduceCtorEq]
    exact { h with
      queue := hL ▸ h.queue
      removed := by simp [List.filter_append, hfit, h.removed]
      shape := hL ▸ h.shape }
  | true =>
    have hle : roundUp4k f.item.sizeOnDisk ≤ st.1.maxSize := by rw [h.max]; simpa [fits] using hfit
    have hnone : find? st.1 f.key = none :=
      find?_eq_none.mpr fun hmem =>
        hk (L_keys_subset M done ((h.fitTail.sublist.map _).subset (by simpa [pairs, List.map_map] using hmem)))
    obtain ⟨hok, ht⟩ := add_new h.inv h.res0 hv hnone hle
    have m := (moves_add h.inv f.key f.item hv).2
    simp only [hfit, if_true] at hL
    simp only [hok, if_true] at m ⊢
    refine {
      inv := m.inv
      res0 := m.res.trans (by simp [h.res0])
      max := m.maxSize.trans h.max
      queue := ⟨_, rfl, fun p hp => ?_⟩
      removed := by simp [List.filter_append, hfit, h.removed]
      shape := hL ▸ h.fitTail.snoc (roundUp4k_nonneg hv.1) (h.max ▸ ht) }
    rw [hL]
    -- whatever `Add` queued was tracked before
    rcases List.mem_cons.mp (m.tracked.subset (List.mem_append_right _ hp)) with rfl | hp
    · exact List.mem_append_right _ (List.mem_singleton_self _)
    · exact List.mem_append_left _ (h.tracked_subset hp)

/-- `S` need not be sorted: the invariant speaks of the order the files are given in. -/
theorem loadSorted_inv {M : Int} (H : Int) (h0 : 0 ≤ M) (h1 : M < 9223372036854775808) {S : List Scanned}
    (hnd : (S.map (·.key)).Nodup) (hv : ∀ f ∈ S, 0 ≤ f.item.sizeOnDisk ∧ 0 ≤ f.item.size) :
    LoadInv M S (loadSorted M H S) := by
  refine foldl_prefix_induction (f := loadStep)
    (fun done st => (done.map (·.key)).Nodup → (∀ f ∈ done, 0 ≤ f.item.sizeOnDisk ∧ 0 ≤ f.item.size) →
      LoadInv M done st) (fun _ _ => ?_) ?_ S hnd hv
  · -- the empty index, nothing seen: `L M [] = []` of which nothing is dropped, and `sumP [] ≤ M` is `h0`
    exact {
      inv := inv_init M H h0 h1
      res0 := rfl
      max := rfl
      queue := ⟨[], rfl, nofun⟩
      removed := rfl
      shape := ⟨0, Nat.le_refl 0, rfl, nofun, h0⟩ }
  · intro done st f ih hnd hv
    rw [List.map_append, List.nodup_append] at hnd
    exact loadStep_inv (ih hnd.1 fun g hg => hv g (by simp [hg]))
      (fun hm => hnd.2.2 _ hm _ (by simp) rfl) (hv f (by simp))

/-- Files with duplicate keys among them: the accounting still holds and every file is still answered
for, by the index, by the remover's queue or by the list of refused files. -/
theorem loadSorted_tracked {M : Int} (H : Int) (h0 : 0 ≤ M) (h1 : M < 9223372036854775808) {S : List Scanned}
    (hv : ∀ f ∈ S, 0 ≤ f.item.sizeOnDisk ∧ 0 ≤ f.item.size) :
    Inv (loadSorted M H S).1 ∧
    (tracked (loadSorted M H S).1 ++ (loadSorted M H S).2.map pairOf).Perm (S.map pairOf) := by
  refine foldl_prefix_induction (f := loadStep)
    (fun done st => (∀ f ∈ done, 0 ≤ f.item.sizeOnDisk ∧ 0 ≤ f.item.size) →
      Inv st.1 ∧ (tracked st.1 ++ st.2.map pairOf).Perm (done.map pairOf))
    (fun _ => ⟨inv_init M H h0 h1, .refl _⟩) ?_ S hv
  intro done st f ih hv
  obtain ⟨hi, hp⟩ := ih fun g hg => hv g (by simp [hg])
  have m := (moves_add hi f.key f.item (hv f (by simp))).2
  have ht := m.tracked
  rw [loadStep_eq, List.map_append]
  refine ⟨m.inv, ?_⟩
  -- accepted: tracked by the index; refused: on the list of files to remove
  by_cases hr : (add st.1 f.key f.item).2 = .ok
  · rw [if_pos hr] at ht ⊢
    exact (ht.append_right _).trans ((List.perm_append_singleton (pairOf f) _).symm.trans (hp.append_right _))
  · rw [if_neg hr, List.nil_append] at ht
    rw [if_neg hr, List.map_append, ← List.append_assoc]
    exact ((ht.append_right _).trans hp).append_right _

end BR.Load
