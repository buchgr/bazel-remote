import BR.Lemmas.ConcDir
/-!
Who may take an entry out of the index (model M5).  `Holds l k v`: key `k` is indexed with value
`v`.  Every step other than a space-making one (`putReserve`, `putCommit`: eviction under pressure,
overwrite of the same key) and the removal by a reader that failed on *this very file*
(`getRemove` with the same temp suffix) keeps the entry — in particular the removal by a reader
that failed on an older file of the key (finding F23), lookups, the slow path, the remover and
corruption of files do.
-/
namespace BR.Conc
open BR.ListAux
open BR.Lru hiding step run

def Holds (l : Lru) (k : String) (v : Item) : Prop := ∃ e ∈ l.order, e.key = k ∧ e.val = v

theorem holds_find {l : Lru} (h : Wf l) {k : String} {v : Item} (hh : Holds l k v) :
    ∃ e, find? l k = some e ∧ e.val = v := by
  obtain ⟨e, he, rfl, hv⟩ := hh
  exact ⟨e, find?_of_mem_nodup Elem.key he h.keys_nodup, hv⟩

theorem find_holds {l : Lru} {k : String} {e : Elem} (hf : find? l k = some e) : Holds l k e.val :=
  ⟨e, (find?_key Elem.key k hf).1, (find?_key Elem.key k hf).2, rfl⟩

theorem Holds.of_perm {l l' : Lru} {k : String} {v : Item} (hh : Holds l k v) (hp : l'.order.Perm l.order) :
    Holds l' k v :=
  let ⟨e, he, hkv⟩ := hh
  ⟨e, hp.mem_iff.mpr he, hkv⟩

theorem holds_removeElem {l : Lru} (h : Wf l) {x : Elem} (hx : x ∈ l.order) {k : String} {v : Item}
    (hne : x.val ≠ v) (hh : Holds l k v) : Holds (removeElem l x) k v := by
  obtain ⟨e, he, hk, hv⟩ := hh
  refine ⟨e, ?_, hk, hv⟩
  simp only [removeElem, enqueue, List.mem_filter]
  refine ⟨he, ?_⟩
  have : e.id ≠ x.id := by
    intro hid
    have := inj_of_nodup_map Elem.id h.ids_nodup he hx hid
    exact hne (by rw [← this, hv])
  simpa using this

theorem holds_removeIfSame {l : Lru} (h : Wf l) (fe : Elem) {k : String} {v : Item}
    (hne : fe.val.random ≠ v.random) (hh : Holds l k v) : Holds (removeIfSame l fe) k v := by
  rcases removeIfSame_cases l fe with he | ⟨cur, hcur, hsame, he⟩ <;> rw [he]
  · exact hh
  · unfold removeElemId
    rw [hcur]
    exact holds_removeElem h (find?_key Elem.id fe.id hcur).1 (fun hcv => hne (by rw [← hsame, hcv])) hh

/-- `st` is quiet for the value `v`: not a space-making step of an upload, and a reader's removal only if the
file it failed on is not `v`'s; which file that was stands in the reader's program counter, hence the state `s` -/
def quiet (s : State) (v : Item) : Step → Prop
  | .putReserve _ => False
  | .putCommit _ => False
  | .getRemove j => ∀ g e, s.gets[j]? = some g → g.pc = .failed e → e.val.random ≠ v.random
  | _ => True

theorem step_keeps {M H : Int} {s : State} (h : Good M H s) (st : Step) {k : String} {v : Item}
    (hh : Holds s.lru k v) (hq : quiet s v st) : Holds (step s st).lru k v := by
  have hwf := h.acc.lru.toWf
  refine step_cases (motive := fun s' => Holds s'.lru k v) s st hh fun hs => ?_
  cases hs with
  | reserveOk | reserveRefused | commitOk | commitRefused => exact hq.elim
  | writeFault => exact hh.of_perm (.of_eq (BR.Disk.order_release _ _))
  | writeOk | openFast | corrupt => exact hh
  | lookupHit _ _ hg | lookupMiss _ _ hg | openSlow _ _ _ hg | openMiss _ _ _ hg =>
    exact hh.of_perm (get_order_perm hwf hg)
  | openGone _ _ _ hg hf2 =>
    -- impossible: an indexed entry has its file (directory invariant)
    obtain ⟨f, hfo⟩ := h.dir.fileOf_find ((get_snd _ _).symm.trans (congrArg Prod.snd hg))
    cases hfo.symm.trans hf2
  | remove hg hpc => exact holds_removeIfSame hwf _ (hq _ _ hg hpc) hh
  | unlink hd => exact hh.of_perm (.of_eq (order_drainOne hd))

/-- every step of the schedule is quiet in the state in which it is taken -/
def quietSched (v : Item) : State → List Step → Prop
  | _, [] => True
  | s, st :: rest => quiet s v st ∧ quietSched v (BR.Conc.step s st) rest

theorem run_keeps {M H : Int} {s : State} (h : Good M H s) (sched : List Step) {k : String} {v : Item}
    (hh : Holds s.lru k v) (hq : quietSched v s sched) : Holds (run s sched).lru k v := by
  induction sched generalizing s with
  | nil => exact hh
  | cons st rest ih => exact ih (step_good h st) (step_keeps h st hh hq.1) hq.2

end BR.Conc
