import BR.Model.Disk
/-! Naming: the path `getElementPath` computes from a lookup key is the path `Put`/`get` created. -/
namespace BR.Disk
open BR.Lru

/-- the key-space names differ in their first character, so each `HasPrefix` test of `getElementPath` is
    settled on the first characters of `kind ++ "/" ++ hash` -/
theorem kindOfKey_lookupKey (kind : Kind) (hash : String) : kindOfKey (lookupKey kind hash) = kind := by
  cases kind <;> simp [kindOfKey, lookupKey, Kind.str]

theorem hashOfKey_lookupKey (kind : Kind) {hash : String} (hlen : hash.length = 64) :
    hashOfKey (lookupKey kind hash) = hash := by
  have hl : hash.toList.length = 64 := by rw [String.length_toList]; exact hlen
  have : ∀ (p : List Char), (p ++ hash.toList).drop ((p ++ hash.toList).length - 64) = hash.toList := by
    intro p
    rw [List.length_append, hl, Nat.add_sub_cancel, List.drop_left' rfl]
  cases kind <;> simp only [hashOfKey, lookupKey, Kind.str, String.toList_append]
  all_goals rw [this, String.ofList_toList]

/-- the file `commit` indexed under `LookupKey(kind, hash)` is the file the evictor / loader will
    compute from the index entry -/
theorem elementPath_lookupKey (kind : Kind) {hash : String} (hlen : hash.length = 64) (v : Item) :
    elementPath (lookupKey kind hash) v = fileLocation kind v.legacy hash v.size v.random := by
  unfold elementPath
  rw [kindOfKey_lookupKey, hashOfKey_lookupKey kind hlen]

end BR.Disk
