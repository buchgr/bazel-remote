import BR.Lemmas.DiskInv
/-! Proxy read-through facts (C12, C17, C18): what `get` and `Contains` make of the back end's answers. -/
namespace BR.Disk
open BR.Lru BR.CasBlob

theorem serveFetched_some {C : Codec} {cfg : Cfg} {kind : Kind} {file : Bytes} {fs offset : Int} {zstd : Bool}
    {hit : Hit} (h : serveFetched C cfg kind file fs offset zstd = some hit) :
    hit.size = fs ∧ ((kind ≠ .cas ∨ cfg.mode = .identity) → (file.length : Int) = fs ∧
      hit.data = (if zstd then legacyZstd C (file.drop offset.toNat) else file.drop offset.toNat)) := by
  revert h
  fun_cases serveFetched C cfg kind file fs offset zstd <;> intro h
  case case1 | case4 | case6 => cases h
  case case2 _ hl _ => cases h; exact ⟨rfl, fun _ => ⟨by simpa using hl, rfl⟩⟩
  case case3 hu _ _ _ => cases h; exact ⟨rfl, fun h => absurd h hu⟩
  case case5 hu _ _ _ _ => cases h; exact ⟨rfl, fun h => absurd h hu⟩

/-- what a hit served from the back end's answer `.found s fs` looks like: only for a complete, fault-free
    answer whose announced size is known, within `max_proxy_blob_size` and compatible with the request; the
    hit is what `serveFetched` makes of exactly the bytes the back end sent (hence `size_eq` and `raw` below) -/
structure ServedFrom (C : Codec) (d : Disk) (kind : Kind) (size offset : Int) (zstd : Bool) (s : Stream) (fs : Int)
    (hit : Hit) : Prop where
  complete : s.fault = false
  nonneg : 0 ≤ fs
  le_max : fs ≤ d.cfg.maxProxyBlobSize
  compatible : isSizeMismatch size fs = false
  served : serveFetched C d.cfg kind s.data fs offset zstd = some hit

section
variable {C : Codec} {d : Disk} {l : Lru} {kind : Kind} {hash : String} {size offset : Int} {zstd : Bool}
  {pg : ProxyGet} {rnd : String} {hit : Hit}

theorem ServedFrom.size_eq {s : Stream} {fs : Int} (h : ServedFrom C d kind size offset zstd s fs hit) : hit.size = fs :=
  (serveFetched_some h.served).1

theorem ServedFrom.raw {s : Stream} {fs : Int} (h : ServedFrom C d kind size offset zstd s fs hit)
    (hraw : kind ≠ .cas ∨ d.cfg.mode = .identity) :
    (s.data.length : Int) = fs ∧
      hit.data = (if zstd then legacyZstd C (s.data.drop offset.toNat) else s.data.drop offset.toNat) :=
  (serveFetched_some h.served).2 hraw

theorem fetchCore_hit_only_if (hh : (fetchCore C d l kind hash size offset zstd pg rnd).2 = .hit hit) :
    ∃ s fs, pg = .found s fs ∧ ServedFrom C d kind size offset zstd s fs hit := by
  revert hh
  fun_cases fetchCore C d l kind hash size offset zstd pg rnd <;> intro hh
  -- 1–6 every answer that is not served, 7 committed, 8 commit refused; what 7 binds is listed in `fetchCore_effect`
  case case1 | case2 | case3 | case4 | case5 | case6 | case8 => cases hh
  case case7 s fs hbig hmm hf _ _ hs _ _ _ =>
    cases hh
    simp only [Bool.or_eq_true, decide_eq_true_eq, not_or, Int.not_lt, Bool.not_eq_true] at hmm
    exact ⟨s, fs, rfl, { complete := by simpa using hf, nonneg := hmm.2, le_max := by omega, compatible := hmm.1, served := hs }⟩

/-- a fetch whose size the request did not state reserves the announced size first (finding F27), when
    that size is acceptable -/
theorem fetchFromProxy_late {s : Stream} {fs : Int}
    (hc : size ≤ 0 ∧ fs > 0 ∧ fs ≤ d.cfg.maxProxyBlobSize ∧ isSizeMismatch size fs = false) :
    fetchFromProxy C d l kind hash size offset zstd (.found s fs) rnd =
      match (reserve l fs).2 with
      | some e => ({ d with lru := (reserve l fs).1 }, .err (codeOfErr e))
      | none => fetchCore C d (reserve l fs).1 kind hash fs offset zstd (.found s fs) rnd := by
  unfold fetchFromProxy
  simp only [hc, and_self, if_true]
  cases hr : reserve l fs with
  | mk lr rerr => cases rerr <;> rfl

theorem fetchFromProxy_direct {s : Stream} {fs : Int}
    (hc : ¬ (size ≤ 0 ∧ fs > 0 ∧ fs ≤ d.cfg.maxProxyBlobSize ∧ isSizeMismatch size fs = false)) :
    fetchFromProxy C d l kind hash size offset zstd (.found s fs) rnd =
      fetchCore C d l kind hash size offset zstd (.found s fs) rnd := by
  unfold fetchFromProxy
  simp only [hc, if_false]

theorem fetchFromProxy_hit_only_if (hh : (fetchFromProxy C d l kind hash size offset zstd pg rnd).2 = .hit hit) :
    ∃ s fs, pg = .found s fs ∧ ServedFrom C d kind size offset zstd s fs hit := by
  revert hh
  fun_cases fetchFromProxy C d l kind hash size offset zstd pg rnd <;> intro hh
  -- 1 late reservation refused, 2 granted (`hc`: the test for it), 3–4 no late reservation
  case case1 => cases hh
  case case2 s fs hc lr hr =>
    -- fetched with the announced size reserved: that size is compatible with the unknown one asked for
    obtain ⟨_, _, hpg, hs⟩ := fetchCore_hit_only_if hh
    cases hpg
    exact ⟨s, fs, rfl, { hs with compatible := hc.2.2.2 }⟩
  case case3 | case4 => exact fetchCore_hit_only_if hh

end

/-- **faults degrade to a miss or an error, never a hit**, `r pg` being the answer to what the back end
    says: back-end error, not found, an object above `max_proxy_blob_size`, unknown or mismatching size
    metadata, a stream that fails part-way (for a request of unknown size the error may also be the
    refusal of the late reservation) -/
structure FaultsDegrade (d : Disk) (size : Int) (s : Stream) (fs : Int) (r : ProxyGet → GetOut) : Prop where
  error : r .error = .err .e500
  notFound : r .notFound = .miss
  above_max : fs > d.cfg.maxProxyBlobSize → r (.found s fs) = .miss
  mismatch : fs ≤ d.cfg.maxProxyBlobSize → (isSizeMismatch size fs = true ∨ fs < 0) → r (.found s fs) = .miss
  fault : fs ≤ d.cfg.maxProxyBlobSize → isSizeMismatch size fs = false → 0 ≤ fs → s.fault = true →
    ∃ c, r (.found s fs) = .err c

theorem fetchCore_fault_no_hit (C : Codec) (d : Disk) (l : Lru) (kind : Kind) (hash : String) (size offset : Int)
    (zstd : Bool) (rnd : String) (s : Stream) (fs : Int) :
    FaultsDegrade d size s fs fun pg => (fetchCore C d l kind hash size offset zstd pg rnd).2 := by
  refine ⟨rfl, rfl, ?_, ?_, ?_⟩
  · intro h; unfold fetchCore; simp [h]
  · intro h1 h2
    unfold fetchCore
    have : ¬ fs > d.cfg.maxProxyBlobSize := by omega
    rcases h2 with h2 | h2 <;> simp [this, h2]
  · intro h1 h2 h3 h4
    unfold fetchCore
    have : ¬ fs > d.cfg.maxProxyBlobSize := by omega
    have h3' : ¬ fs < 0 := by omega
    exact ⟨.e500, by simp [this, h2, h3', h4]⟩

theorem fetchFromProxy_fault_no_hit (C : Codec) (d : Disk) (l : Lru) (kind : Kind) (hash : String) (size offset : Int)
    (zstd : Bool) (rnd : String) (s : Stream) (fs : Int) :
    FaultsDegrade d size s fs fun pg => (fetchFromProxy C d l kind hash size offset zstd pg rnd).2 := by
  have core := fetchCore_fault_no_hit C d l kind hash size offset zstd rnd s fs
  refine ⟨core.error, core.notFound, fun h => ?_, fun h1 h2 => ?_, fun h1 h2 h3 h4 => ?_⟩
  · rw [fetchFromProxy_direct (by omega)]; exact core.above_max h
  · rw [fetchFromProxy_direct (fun hc => by
      rcases h2 with h2 | h2
      · simp [h2] at hc
      · omega)]
    exact core.mismatch h1 h2
  · by_cases hl : size ≤ 0 ∧ fs > 0 ∧ fs ≤ d.cfg.maxProxyBlobSize ∧ isSizeMismatch size fs = false
    · rw [fetchFromProxy_late hl]
      cases (reserve l fs).2 with
      | some e => exact ⟨_, rfl⟩
      | none =>
        -- fetched with the announced size reserved: `fetchCore` is now asked for `fs` itself
        exact (fetchCore_fault_no_hit C d _ kind hash fs offset zstd rnd s fs).fault h1 (by simp [isSizeMismatch]) h3 h4
    · rw [fetchFromProxy_direct hl]; exact core.fault h1 h2 h3 h4

theorem get_ignores_proxy_above_limit (C : Codec) (d : Disk) (kind : Kind) (hash : String) (size offset : Int)
    (zstd : Bool) (pg pg' : ProxyGet) (rnd : String) (hbig : size > d.cfg.maxProxyBlobSize) :
    get C d kind hash size offset zstd pg rnd = get C d kind hash size offset zstd pg' rnd := by
  unfold get
  have : decide (size ≤ d.cfg.maxProxyBlobSize) = false := by simp; omega
  simp [this]

theorem contains_true_only_if {d : Disk} {kind : Kind} {hash : String} {size : Int} {pc : Bool × Int}
    (ht : (contains d kind hash size pc).2.1 = true) :
    (kind = .cas ∧ size ≤ 0 ∧ hash = emptySha256) ∨
    (∃ e, (Lru.get d.lru (lookupKey kind hash)).2 = some e ∧ isSizeMismatch size e.val.size = false) ∨
    (d.cfg.hasProxy = true ∧ size ≤ d.cfg.maxProxyBlobSize ∧ pc.1 = true ∧ pc.2 ≤ d.cfg.maxProxyBlobSize ∧
      isSizeMismatch size pc.2 = false) := by
  revert ht
  fun_cases contains d kind hash size pc <;> intro ht
  -- 1 bad hash, 2 the empty blob, 3 local entry, 4 and 6 the back end says yes, 5 and 7 it does not
  case case1 | case5 | case7 => cases ht
  case case2 _ he => exact .inl he
  case case3 l0 _ e hm hget => exact .inr (.inl ⟨e, by rw [hget], by simpa using hm⟩)
  case case4 | case6 =>
    rename_i hc _
    -- `hc`: the test of the branch, a `&&` chain
    exact .inr (.inr (by simpa only [Bool.and_eq_true, decide_eq_true_eq, Bool.not_eq_true', and_assoc] using hc))

end BR.Disk
