import BR.Model.Conc
/-! `BR.Conc.step` as a labelled transition relation; facts about model M5 are proved by cases on the
transition that fired (`step_cases`) and along a schedule (`run_induction`). -/
namespace BR.Conc
-- `step` and `run` are M5's throughout the lemma files of M5; the index's own are `Lru.step`, `Lru.run`
open BR.Lru hiding step run

/-- `Fires s st s'`: step `st` is enabled in `s` and takes it to `s'`.  One constructor per branch of `step`
that changes the state, with what the branch matched on as hypotheses (an index operation by the equation for its result
pair, `reserve s.lru p.size = (l, none)`).  The thread and what it found are implicit: `| @commitOk i p l hp hpc hc`. -/
inductive Fires (s : State) : Step → State → Prop
  | reserveOk {i p l} : s.puts[i]? = some p → p.pc = .idle → reserve s.lru p.size = (l, none) →
      Fires s (.putReserve i) (setPut { s with lru := l } i { p with pc := .reserved })
  | reserveRefused {i p l e} : s.puts[i]? = some p → p.pc = .idle → reserve s.lru p.size = (l, some e) →
      Fires s (.putReserve i) (setPut { s with lru := l } i { p with pc := .done false })
  | writeFault {i p} : s.puts[i]? = some p → p.pc = .reserved →
      Fires s (.putWrite i true) (setPut { s with lru := BR.Disk.release s.lru p.size } i { p with pc := .done false })
  | writeOk {i p} : s.puts[i]? = some p → p.pc = .reserved →
      Fires s (.putWrite i false)
        (setPut { s with files := s.files ++ [⟨p.key, rndOf i, p.data, false⟩] } i { p with pc := .written })
  | commitOk {i p l} : s.puts[i]? = some p → p.pc = .written →
      BR.Disk.commit s.lru p.key p.size (itemOf p i) = (l, .ok) →
      Fires s (.putCommit i) (setPut { s with lru := l } i { p with pc := .done true })
  | commitRefused {i p l c} : s.puts[i]? = some p → p.pc = .written → c ≠ .ok →
      BR.Disk.commit s.lru p.key p.size (itemOf p i) = (l, c) →
      Fires s (.putCommit i)
        (setPut { s with lru := l, files := s.files.filter (fun f => !(f.key == p.key && f.rnd == rndOf i)) } i
          { p with pc := .done false })
  | lookupHit {j g l e} : s.gets[j]? = some g → g.pc = .idle → Lru.get s.lru g.key = (l, some e) →
      Fires s (.getLookup j) (setGet { s with lru := l } j { g with pc := .looked e })
  | lookupMiss {j g l} : s.gets[j]? = some g → g.pc = .idle → Lru.get s.lru g.key = (l, none) →
      Fires s (.getLookup j) (setGet { s with lru := l } j { g with pc := .done none })
  | openFast {j g e f} : s.gets[j]? = some g → g.pc = .looked e → fileOf s.files g.key e.val.random = some f →
      Fires s (.getOpen j) (setGet s j { g with pc := openResult f e })
  | openSlow {j g e l e2 f2} : s.gets[j]? = some g → g.pc = .looked e → fileOf s.files g.key e.val.random = none →
      Lru.get s.lru g.key = (l, some e2) → fileOf s.files g.key e2.val.random = some f2 →
      Fires s (.getOpen j) (setGet { s with lru := l } j { g with pc := openResult f2 e2 })
  | openGone {j g e l e2} : s.gets[j]? = some g → g.pc = .looked e → fileOf s.files g.key e.val.random = none →
      Lru.get s.lru g.key = (l, some e2) → fileOf s.files g.key e2.val.random = none →
      Fires s (.getOpen j) (setGet { s with lru := removeElemId l e2.id } j { g with pc := .done none })
  | openMiss {j g e l} : s.gets[j]? = some g → g.pc = .looked e → fileOf s.files g.key e.val.random = none →
      Lru.get s.lru g.key = (l, none) →
      Fires s (.getOpen j) (setGet { s with lru := l } j { g with pc := .done none })
  | remove {j g e} : s.gets[j]? = some g → g.pc = .failed e →
      Fires s (.getRemove j) (setGet { s with lru := removeIfSame s.lru e } j { g with pc := .done none })
  | unlink {l p} : drainOne s.lru = (l, some p) →
      Fires s .unlink { s with lru := l, files := s.files.filter (fun f => !(f.key == p.1 && f.rnd == p.2.random)) }
  | corrupt {key rnd} :
      Fires s (.corrupt key rnd)
        { s with files := s.files.map (fun f => if f.key == key && f.rnd == rnd then { f with corrupt := true } else f) }

/-- Left disjunct: the thread is not at the program point of the step, or the remover finds the queue empty. -/
theorem step_fires (s : State) (st : Step) : step s st = s ∨ Fires s st (step s st) := by
  -- Lean's case principle for `step`: one goal per branch, what the branch matched on in the context
  fun_cases step s st
  case case1 hp hpc _ hr => exact .inr (.reserveOk hp hpc hr)
  case case2 hp hpc _ _ hr => exact .inr (.reserveRefused hp hpc hr)
  case case5 hp hpc => exact .inr (.writeFault hp hpc)
  case case6 fault _ hp hpc hf =>
    obtain rfl : fault = false := by simpa using hf
    exact .inr (.writeOk hp hpc)
  case case9 hp hpc _ hc => exact .inr (.commitOk hp hpc hc)
  case case10 hp hpc _ _ hno hc => exact .inr (.commitRefused hp hpc hno hc)
  case case13 hg hpc _ _ hget => exact .inr (.lookupHit hg hpc hget)
  case case14 hg hpc _ hget => exact .inr (.lookupMiss hg hpc hget)
  case case17 hg _ hpc _ hf => exact .inr (.openFast hg hpc hf)
  case case18 hg _ hpc hf _ _ hget _ hf2 => exact .inr (.openSlow hg hpc hf hget hf2)
  case case19 hg _ hpc hf _ _ hget hf2 => exact .inr (.openGone hg hpc hf hget hf2)
  case case20 hg _ hpc hf _ hget => exact .inr (.openMiss hg hpc hf hget)
  case case23 hg _ hpc => exact .inr (.remove hg hpc)
  case case26 hd => exact .inr (.unlink hd)
  case case27 l hd =>
    unfold drainOne at hd
    split at hd <;> cases hd
    exact .inl rfl
  case case28 => exact .inr .corrupt
  all_goals exact .inl rfl

/-- Give `motive` explicitly when the goal mentions `s` outside `step s st`. -/
theorem step_cases {motive : State → Prop} (s : State) (st : Step) (stay : motive s)
    (fires : ∀ {s'}, Fires s st s' → motive s') : motive (step s st) := by
  rcases step_fires s st with h | h
  · rw [h]; exact stay
  · exact fires h

theorem run_induction {motive : State → Prop} (hstep : ∀ s st, motive s → motive (step s st)) (s : State)
    (sched : List Step) (h : motive s) : motive (run s sched) := by
  induction sched generalizing s with
  | nil => exact h
  | cons st rest ih => exact ih _ (hstep s st h)

end BR.Conc
