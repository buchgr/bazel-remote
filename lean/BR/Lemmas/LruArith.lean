import BR.Model.Lru
/-! Arithmetic facts about `roundUp4k`, `sumLargerThan` and the uint64 hard-limit sum. -/
namespace BR.Lru

theorem roundUp4k_ge (n : Int) : n ≤ roundUp4k n := by unfold roundUp4k; omega
theorem roundUp4k_lt (n : Int) : roundUp4k n < n + 4096 := by unfold roundUp4k; omega
theorem roundUp4k_mod (n : Int) : roundUp4k n % 4096 = 0 := by unfold roundUp4k; omega
theorem roundUp4k_idem (n : Int) : roundUp4k (roundUp4k n) = roundUp4k n := by unfold roundUp4k; omega
theorem roundUp4k_mono {a b : Int} (h : a ≤ b) : roundUp4k a ≤ roundUp4k b := by unfold roundUp4k; omega
theorem roundUp4k_nonneg {n : Int} (h : 0 ≤ n) : 0 ≤ roundUp4k n := by unfold roundUp4k; omega
theorem roundUp4k_least (n m : Int) (hm : m % 4096 = 0) (h : n ≤ m) : roundUp4k n ≤ m := by
  unfold roundUp4k; omega
theorem roundUp4k_of_mul (n : Int) (h : n % 4096 = 0) : roundUp4k n = n := by unfold roundUp4k; omega

/-- The `int64` bit-level definition in lru.go, `(n + BlockSize - 1) & -BlockSize`, agrees with the
    unbounded model wherever the addition does not overflow. -/
def roundUp4kBV (n : BitVec 64) : BitVec 64 := (n + 4095#64) &&& (-4096#64)

theorem and_neg4096 (x : BitVec 64) : x &&& (-4096#64) = (x >>> 12) <<< 12 := by
  have hc : (-4096#64 : BitVec 64) = (BitVec.allOnes 64) <<< 12 := by decide
  rw [hc]
  ext i hi
  simp only [BitVec.getElem_and, BitVec.getElem_shiftLeft, BitVec.getElem_allOnes,
    BitVec.getElem_ushiftRight]
  by_cases h : i < 12
  · simp [h]
  · simp [h]; congr 1; omega

theorem roundUp4kBV_toNat (n : BitVec 64) (h : n.toNat + 4095 < 2 ^ 64) :
    (roundUp4kBV n).toNat = (n.toNat + 4095) / 4096 * 4096 := by
  unfold roundUp4kBV
  rw [and_neg4096, BitVec.toNat_shiftLeft, BitVec.toNat_ushiftRight, BitVec.toNat_add]
  simp only [BitVec.toNat_ofNat, Nat.shiftRight_eq_div_pow, Nat.shiftLeft_eq]
  omega

theorem roundUp4kBV_eq (n : BitVec 64) (h : n.toNat + 4095 < 2 ^ 63) :
    ((roundUp4kBV n).toNat : Int) = roundUp4k (n.toNat : Int) := by
  rw [roundUp4kBV_toNat n (by omega)]
  unfold roundUp4k
  omega

/-- `sumLargerThan` is the overflow-safe comparison its comment claims: for int64 arguments with
    `a` positive and `b` non-negative it decides `a + b > c` on the mathematical integers. -/
theorem sumLargerThan_correct (a b c : Int) (ha : 0 < a) (hb : 0 ≤ b)
    (ha' : a < 9223372036854775808) (hb' : b < 9223372036854775808) (hc : c < 9223372036854775808) :
    sumLargerThan a b c = decide (a + b > c) := by
  unfold sumLargerThan wrap64
  by_cases h : a + b < 9223372036854775808
  · have : (a + b + 9223372036854775808) % 18446744073709551616 - 9223372036854775808 = a + b := by omega
    simp only [this]
    by_cases h2 : a + b > c <;> simp [h2] <;> omega
  · -- the sum wraps to a negative number: the second test of the Go function answers
    have : (a + b + 9223372036854775808) % 18446744073709551616 - 9223372036854775808
        = a + b - 18446744073709551616 := by omega
    simp only [this]
    have h3 : a + b > c := by omega
    by_cases h5 : a + b - 18446744073709551616 > c <;> simp [h5, h3]; omega

theorem totalDiskSize_eq (l : Lru) (size : Int) (h1 : 0 ≤ l.cur) (h2 : 0 ≤ l.qsize) (h3 : 0 ≤ size)
    (h4 : l.cur + l.qsize + size < 18446744073709551616) :
    totalDiskSize l size = l.cur + l.qsize + size := by
  unfold totalDiskSize u64; omega

theorem u64_eq {x : Int} (h : 0 ≤ x) (h' : x < 18446744073709551616) : u64 x = x := by
  unfold u64; omega

end BR.Lru
