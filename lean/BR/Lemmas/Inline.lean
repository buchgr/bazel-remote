import BR.Model.Inline
import BR.Lemmas.ListAux
/-! M8b.  One visit of `maybeInline` keeps what the field stands for, keeps every CAS entry under its
true digest, only adds to the CAS, and keeps the running total within the budget
(`maybeInline_spec`, one goal per leaf of the function); `pipeline_spec` carries the four along the
visits, the contents of earlier fields surviving later visits because the CAS only grows
(`content_mono`). -/
namespace BR.Inline

/-- every CAS entry sits under its true digest -/
def CasOk {α} (o : Ops α) (c : Cas α) : Prop := ∀ p ∈ c, p.1 = trueDigest o p.2

/-- SHA-256 (with the length) identifies contents: the explicit no-collision hypothesis -/
def NoColl {α} (o : Ops α) : Prop := ∀ a b, trueDigest o a = trueDigest o b → a = b

/-- a digest stored next to inline contents is the digest of those contents (what the gRPC upload
path verifies before it stores an ActionResult) -/
def Consistent {α} (o : Ops α) (f : Field α) : Prop := ∀ a d, f.raw = some a → f.dig = some d → d = trueDigest o a

theorem get_mem {α} {c : Cas α} {d : Digest} {a : α} (h : c.get d = some a) : (d, a) ∈ c :=
  BR.ListAux.mem_of_lookup h

theorem get_append_new {α} {c : Cas α} {d : Digest} (a : α) (h : c.get d = none) : (c ++ [(d, a)]).get d = some a := by
  have : c.find? (fun p => p.1 == d) = none := by simpa [Cas.get] using h
  rw [Cas.get, List.find?_append, this]; simp

theorem get_append_old {α} {c : Cas α} {d e : Digest} {a b : α} (h : c.get d = some a) : (c ++ [(e, b)]).get d = some a := by
  obtain ⟨p, hf, rfl⟩ := Option.map_eq_some_iff.mp h
  simp [Cas.get, List.find?_append, hf]

theorem foreign_false_of_consistent {α} {o : Ops α} {f : Field α} {a : α} (hf : Consistent o f) (hr : f.raw = some a) :
    foreign o f a = false := by
  unfold foreign
  cases hdg : f.dig with
  | none => rfl
  | some d => simp [hf a d hr hdg]

theorem fits_iff {α} (o : Ops α) (max : Int) (f : Field α) (sofar : Int) :
    fits o max f sofar = true ↔ sofar + rawLen o f ≤ max ∧ ∀ d, f.dig = some d → sofar + d.size ≤ max := by
  unfold fits; cases f.dig <;> simp

theorem maybeInline_spec {α} {o : Ops α} {max : Int} {putOk want : Bool} {f : Field α} {sofar : Int} {cas : Cas α}
    (hc : CasOk o cas) (hn : NoColl o) {s : Step α} :
    maybeInline o max putOk want f sofar cas = some s →
    content s.cas s.field = content cas f ∧ CasOk o s.cas ∧ (∀ d a, cas.get d = some a → s.cas.get d = some a) ∧
    (putOk = true → Consistent o f → sofar ≤ max → s.sofar ≤ max) := by
  -- one goal per leaf of `maybeInline`, in source order; `rintro ⟨⟩` puts the returned step in place of `s`
  fun_cases maybeInline o max putOk want f sofar cas
  case case2 a hr hfo =>   -- not inlined, foreign digest: bytes stay inline and count
    rintro ⟨⟩
    exact ⟨rfl, hc, fun _ _ x => x, fun _ hf _ => by simp [foreign_false_of_consistent hf hr] at hfo⟩
  case case3 a hr d _ hg =>   -- not inlined, the CAS holds `d` already: no collision, so it holds exactly `a`
    rintro ⟨⟩
    obtain ⟨b, hb⟩ := Option.isSome_iff_exists.mp hg
    obtain rfl : a = b := hn a b (hc _ (get_mem hb))
    exact ⟨by simp [content, hr, d, hb], hc, fun _ _ x => x, fun _ _ hs => hs⟩
  case case4 a hr d _ hg _ =>   -- not inlined, uploaded under the true digest
    rintro ⟨⟩
    have hnone : cas.get d = none := by simpa using hg
    refine ⟨by simp [content, hr, get_append_new a hnone], ?_, fun _ _ => get_append_old, fun _ _ hs => hs⟩
    intro p hp
    rcases List.mem_append.mp hp with hp | hp
    · exact hc p hp
    · rw [List.mem_singleton.mp hp]
  case case5 a hr d _ _ hp =>   -- not inlined, upload failed: bytes stay inline and count
    rintro ⟨⟩
    exact ⟨by simp [content, hr], hc, fun _ _ x => x, fun h => absurd h hp⟩
  case case6 hw a hr =>   -- inlined already: the first budget test covers the bytes
    rintro ⟨⟩
    obtain ⟨_, hfit⟩ : want = true ∧ fits o max f sofar = true := by simpa using hw
    have := ((fits_iff o max f sofar).mp hfit).1
    exact ⟨rfl, hc, fun _ _ x => x, fun _ _ _ => by simpa [rawLen, hr] using this⟩
  case case8 hw hr d hd _ a hg =>   -- fetched from the CAS: the second budget test covers `d.size`
    rintro ⟨⟩
    obtain ⟨_, hfit⟩ : want = true ∧ fits o max f sofar = true := by simpa using hw
    have := ((fits_iff o max f sofar).mp hfit).2 d hd
    exact ⟨by simp [content, hr, hd, hg], hc, fun _ _ x => x, fun _ _ _ => this⟩
  case case9 => nofun   -- blob not readable: no step
  -- the remaining leaves return the field, the total and the CAS as they came
  all_goals rintro ⟨⟩; exact ⟨rfl, hc, fun _ _ x => x, fun _ _ hs => hs⟩

theorem content_mono {α} {c1 c2 : Cas α} (hm : ∀ d a, c1.get d = some a → c2.get d = some a) {f : Field α} {a : α}
    (h : content c1 f = some a) : content c2 f = some a := by
  unfold content at h ⊢
  cases hr : f.raw with
  | some b => simpa [hr] using h
  | none =>
    simp only [hr] at h ⊢
    cases hd : f.dig with
    | none => simp [hd] at h
    | some d =>
      simp only [hd, Option.bind_some] at h ⊢
      exact hm d a h

/-- The first four parts are C11 `inlining_preserves_contents`, the last is `inlining_keeps_budget`. -/
theorem pipeline_spec {α} {o : Ops α} {max : Int} (hn : NoColl o) {items : List (Bool × Bool × Field α)} {sofar : Int}
    {cas : Cas α} {fs : List (Field α)} {sf : Int} {c : Cas α}
    (h : pipeline o max items sofar cas = some (fs, sf, c)) (hc : CasOk o cas) :
    (fs.length = items.length ∧ (∀ p ∈ items.zip fs, ∀ a, content cas p.1.2.2 = some a → content c p.2 = some a) ∧
      CasOk o c ∧ (∀ d a, cas.get d = some a → c.get d = some a)) ∧
    ((∀ it ∈ items, it.2.1 = true ∧ Consistent o it.2.2) → sofar ≤ max → sf ≤ max) := by
  fun_induction pipeline o max items sofar cas generalizing fs sf c with
  | case1 sofar cas =>
    cases h
    exact ⟨⟨rfl, fun p hp => by simp at hp, hc, fun _ _ x => x⟩, fun _ hs => hs⟩
  | case2 | case3 => cases h
  | case4 want putOk f rest sofar cas s hm fs' sf' c' hp ih =>
    cases h
    obtain ⟨hcont, hc1, hmono1, hbud1⟩ := maybeInline_spec hc hn hm
    obtain ⟨⟨hlen, hall, hc2, hmono2⟩, hbud⟩ := ih hp hc1
    refine ⟨⟨by simp [hlen], ?_, hc2, fun d a x => hmono2 d a (hmono1 d a x)⟩, ?_⟩
    · intro p hp a ha
      rcases List.mem_cons.mp hp with rfl | hp
      · exact content_mono hmono2 (hcont ▸ ha)
      · exact hall p hp a (content_mono hmono1 ha)
    · intro hput hs
      obtain ⟨hp1, hcons⟩ := hput (want, putOk, f) (by simp)
      exact hbud (fun it hit => hput it (by simp [hit])) (hbud1 hp1 hcons hs)

end BR.Inline
