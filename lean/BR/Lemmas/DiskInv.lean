import BR.Lemmas.DiskCommit
import BR.Lemmas.DiskNames
import BR.Lemmas.BlobWrite
/-! The disk-level invariant (C03 + C04), what Put / get / Contains / drain do to it and to the reserved
bytes, and hence every sequential history.  Each operation is walked once, and the index it threads
through is followed with `Moves`. -/
namespace BR.Disk
open BR.Lru BR.CasBlob

/-- what the invariant compares of a file: its path and its length -/
def frec (f : String × Bytes) : String × Int := (f.1, (f.2.length : Int))
/-- the file a tracked entry (key, item) stands for: the path `getElementPath` derives from it and the recorded size on disk -/
def fspec (p : String × Item) : String × Int := (elementPath p.1 p.2, p.2.sizeOnDisk)

/-- accounting exact (M1 invariant) and: the regular files are exactly the files of the indexed
    entries and of the entries queued for removal, each with the recorded length, no two files
    sharing a path -/
structure DiskInv (d : Disk) : Prop where
  lru : Inv d.lru
  paths_nodup : (d.files.map Prod.fst).Nodup
  files_ok : (d.files.map frec).Perm ((tracked d.lru).map fspec)

theorem inv_init (cfg : Cfg) (m h : Int) (h0 : 0 ≤ m) (h1 : m < 9223372036854775808) : DiskInv (init cfg m h) :=
  { lru := BR.Lru.inv_init m h h0 h1, paths_nodup := by simp [init], files_ok := by simp [init, tracked, BR.Lru.init] }

theorem DiskInv.index_moved {d : Disk} (h : DiskInv d) {l' : Lru} {n : Int} (hm : Moves d.lru l' n []) (puts : List ProxyPut) :
    DiskInv { d with lru := l', proxyPuts := puts } :=
  { lru := hm.inv, paths_nodup := h.paths_nodup, files_ok := h.files_ok.trans (hm.tracked.map fspec).symm }

theorem DiskInv.index_moved_zero {d : Disk} (h : DiskInv d) {l' : Lru} (hm : Moves d.lru l' 0 []) :
    DiskInv { d with lru := l' } ∧ l'.res = d.lru.res :=
  ⟨h.index_moved hm _, by have := hm.res; omega⟩

theorem DiskInv.file_added {d : Disk} (h : DiskInv d) {l' : Lru} {n : Int} {k : String} {v : Item}
    (hm : Moves d.lru l' n [(k, v)]) {path : String} {content : Bytes}
    (hpath : path = elementPath k v) (hlen : (content.length : Int) = v.sizeOnDisk)
    (hfresh : path ∉ d.files.map Prod.fst) (puts : List ProxyPut) :
    DiskInv { d with lru := l', files := d.files ++ [(path, content)], proxyPuts := puts } := by
  refine { lru := hm.inv, paths_nodup := BR.ListAux.nodup_map_concat h.paths_nodup hfresh, files_ok := ?_ }
  have : frec (path, content) = fspec (k, v) := by simp [frec, fspec, hpath, hlen]
  rw [List.map_append, List.map_singleton, this]
  exact (List.perm_append_comm.trans (h.files_ok.cons _)).trans (hm.tracked.map fspec).symm

theorem writeFile_cases {C : Codec} {H : Bytes → String} {cfg : Cfg} {kind : Kind} {hash : String} {size : Int}
    {s : Stream} {content : Bytes} {ondisk : Int} (h0 : 0 ≤ size)
    (h : writeFile C H cfg kind hash size s = some (content, ondisk)) :
    ondisk = (content.length : Int) ∧
    ((kind = .cas ∧ cfg.mode = .zstd ∧ (writeAndClose C H cfg.chunkSize s size hash).result = .ok ondisk ∧
        (writeAndClose C H cfg.chunkSize s size hash).images.getLast? = some content) ∨
     (¬ (kind = .cas ∧ cfg.mode = .zstd) ∧ content = s.data ∧ s.fault = false ∧ (s.data.length : Int) = size ∧
        (kind = .cas → H s.data = hash))) := by
  revert h
  fun_cases writeFile C H cfg kind hash size s <;> intro h
  case case2 | case3 | case4 | case5 => cases h
  case case1 hk _ n img hi hr =>
    cases h
    exact ⟨writeAndClose_ok_len hr hi, .inl ⟨hk.1, hk.2, hr, hi⟩⟩
  case case6 hk hf hm hv =>
    cases h
    have hlen : (s.data.length : Int) = size := by
      simp only [isSizeMismatch, Bool.and_eq_true, decide_eq_true_eq, bne_iff_ne, ne_eq, not_and,
        Decidable.not_not] at hm
      exact hm (by omega)
    refine ⟨rfl, .inr ⟨hk, rfl, by simpa using hf, hlen, fun hc => ?_⟩⟩
    simp only [hc, true_and, not_or, Decidable.not_not] at hv
    exact hv.2

/-- `hfresh`: the temp-file creator returned an unused name; it matters only for the file that stays,
    so it is asked of an acknowledged Put only.  It is asked for either value of `legacy`, as `Reach.put` has it,
    although the mode of `d` decides which one names the file -/
theorem put_effect (C : Codec) (H : Bytes → String) {d : Disk} (h : DiskInv d) (kind : Kind) (hash : String)
    (size : Int) (s : Stream) (rnd : String)
    (hfresh : (put C H d kind hash size s rnd).2 = .ok →
      ∀ legacy, fileLocation kind legacy hash size rnd ∉ d.files.map Prod.fst) :
    DiskInv (put C H d kind hash size s rnd).1 ∧ (put C H d kind hash size s rnd).1.lru.res = d.lru.res ∧
    ((put C H d kind hash size s rnd).2 ≠ .ok →
      (put C H d kind hash size s rnd).1.files = d.files ∧
      (tracked (put C H d kind hash size s rnd).1.lru).Perm (tracked d.lru)) := by
  -- every path but the successful one ends in a state of this form
  have nofile : ∀ {l' : Lru} (puts : List ProxyPut) (c : Code), Moves d.lru l' 0 [] →
      DiskInv { d with lru := l', proxyPuts := puts } ∧ l'.res = d.lru.res ∧
      (c ≠ .ok → d.files = d.files ∧ (tracked l').Perm (tracked d.lru)) :=
    fun puts c hm => ⟨h.index_moved hm puts, by have := hm.res; omega, fun _ => ⟨rfl, hm.tracked⟩⟩
  revert hfresh
  fun_cases put C H d kind hash size s rnd <;> intro hfresh
  -- 1–5 the guards and the empty blob, 6 reservation refused, 7 write failed, 8 committed, 9 commit refused.
  -- A case binds what its branch of `put` went through, top to bottom: the four tests that failed (`h0 : ¬ size < 0`,
  -- `h64 : ¬ hash.length ≠ 64`), then `l1 legacy content ondisk`, `hw : writeFile … = some (content, ondisk)`,
  -- `puts item l2`, the code `c` with `hno : c ≠ .ok` in 9, `hc : commit … = (l2, _)`, and last
  -- `hr : (if size > 0 then reserve …) = (l1, _)`.
  case case1 | case2 | case3 | case4 | case5 => exact nofile _ _ (.refl h.lru)
  case case6 l1 e hr => cases reserveIf_err h.lru hr; exact nofile _ _ (.refl h.lru)
  case case7 l1 _ hr => exact nofile _ _ (held_release h.lru (reserveIf_ok h.lru hr))
  case case8 h0 _ h64 _ l1 legacy content ondisk hw puts item l2 hc hr =>
    have hlen := (writeFile_cases (by omega) hw).1
    have hm := (held_commit h.lru (reserveIf_ok h.lru hr) (lookupKey kind hash) item
      ⟨by simp only [item]; omega, by simp only [item]; omega⟩ hc).1.cast rfl (if_pos rfl)
    exact ⟨h.file_added hm (elementPath_lookupKey kind (by simpa using h64) item).symm
      (by simp [item, hlen]) (hfresh rfl _) puts, (by have := hm.res; omega : l2.res = d.lru.res), fun hno => absurd rfl hno⟩
  case case9 h0 _ _ _ l1 legacy content ondisk hw puts item l2 c hno hc hr =>
    have hlen := (writeFile_cases (by omega) hw).1
    exact nofile _ _ ((held_commit h.lru (reserveIf_ok h.lru hr) (lookupKey kind hash) item
      ⟨by simp only [item]; omega, by simp only [item]; omega⟩ hc).1.cast rfl (if_neg hno))

theorem serveLocal_fst (C : Codec) (d : Disk) (l : Lru) (kind : Kind) (hash : String) (size offset : Int)
    (zstd : Bool) (e : Elem) :
    (serveLocal C d l kind hash size offset zstd e).1 = l ∨
    (serveLocal C d l kind hash size offset zstd e).1 = removeElemId l e.id := by
  fun_cases serveLocal C d l kind hash size offset zstd e <;> first | exact .inl rfl | exact .inr rfl

theorem moves_localLookup (C : Codec) {d : Disk} (h : Inv d.lru) (kind : Kind) (hash : String)
    (size offset : Int) (zstd : Bool) : Moves d.lru (localLookup C d kind hash size offset zstd).1 0 [] := by
  fun_cases localLookup C d kind hash size offset zstd
  case case1 l0 e _ hget =>
    have hg := moves_get h hget
    rcases serveLocal_fst C d l0 kind hash size offset zstd e with he | he <;> rw [he]
    · exact hg
    · exact (hg.trans (moves_removeElemId hg.inv e.id)).cast (by omega) rfl
  case case2 hget | case3 hget => exact moves_get h hget

/-- `l`: the index of `d` after `get` has looked up and reserved.  `hfresh` as `Reach.get` has it, for every `sz`:
    the size in the name of the new file is the one the back end announces -/
theorem fetchCore_effect (C : Codec) {d : Disk} (h : DiskInv d) {l : Lru} (kind : Kind) (hash : String)
    (h64 : hash.length = 64) (size offset : Int) (hm : Moves d.lru l (max size 0) []) (zstd : Bool) (pg : ProxyGet)
    (rnd : String) (hfresh : ∀ legacy sz, fileLocation kind legacy hash sz rnd ∉ d.files.map Prod.fst) :
    DiskInv (fetchCore C d l kind hash size offset zstd pg rnd).1 ∧
    (fetchCore C d l kind hash size offset zstd pg rnd).1.lru.res = d.lru.res := by
  have hrel := held_release h.lru hm
  fun_cases fetchCore C d l kind hash size offset zstd pg rnd
  -- 1–6 every answer that is not served, 7 committed, 8 commit refused.
  -- 7 and 8 bind the answer `.found s fs`, the three tests that failed (the second is
  -- `hsz : ¬ (isSizeMismatch size fs || decide (fs < 0)) = true`), `legacy`, the hit with its equation, `item l2`, the
  -- code `c` with `hno : c ≠ .ok` in 8, and `hc : commit … = (l2, _)`.
  case case1 | case2 | case3 | case4 | case5 | case6 => exact h.index_moved_zero hrel
  case case7 s fs _ hsz _ legacy hit _ item l2 hc =>
    have hfs : 0 ≤ fs := by simp at hsz; exact hsz.2
    have hm2 := (held_commit h.lru hm (lookupKey kind hash) item ⟨by simp [item], hfs⟩ hc).1.cast rfl (if_pos rfl)
    exact ⟨h.file_added hm2 (elementPath_lookupKey kind h64 item).symm
      (by simp [item]) (hfresh _ _) _, (by have := hm2.res; omega : l2.res = d.lru.res)⟩
  case case8 s fs _ hsz _ legacy hit _ item l2 c hno hc =>
    have hfs : 0 ≤ fs := by simp at hsz; exact hsz.2
    exact h.index_moved_zero
      ((held_commit h.lru hm (lookupKey kind hash) item ⟨by simp [item], hfs⟩ hc).1.cast rfl (if_neg hno))

theorem fetchFromProxy_effect (C : Codec) {d : Disk} (h : DiskInv d) {l : Lru} (kind : Kind) (hash : String)
    (h64 : hash.length = 64) (size offset : Int) (hm : Moves d.lru l (max size 0) []) (zstd : Bool) (pg : ProxyGet)
    (rnd : String) (hfresh : ∀ legacy sz, fileLocation kind legacy hash sz rnd ∉ d.files.map Prod.fst) :
    DiskInv (fetchFromProxy C d l kind hash size offset zstd pg rnd).1 ∧
    (fetchFromProxy C d l kind hash size offset zstd pg rnd).1.lru.res = d.lru.res := by
  fun_cases fetchFromProxy C d l kind hash size offset zstd pg rnd
  -- 1 late reservation refused, 2 granted, 3–4 no late reservation
  case case1 s fs hc lr e hr =>
    have := reserve_err_unchanged hm.inv fs e (by rw [hr]); rw [hr] at this; cases this
    exact h.index_moved_zero (hm.cast (by omega) rfl)
  case case2 s fs hc lr hr =>
    have hm2 := (moves_reserve hm.inv hr).2
    exact fetchCore_effect C h kind hash h64 fs offset ((hm.trans hm2).cast (by simp only [if_true]; omega) rfl)
      zstd _ rnd hfresh
  case case3 | case4 => exact fetchCore_effect C h kind hash h64 size offset hm zstd _ rnd hfresh

theorem get_effect (C : Codec) {d : Disk} (h : DiskInv d) (kind : Kind) (hash : String) (size offset : Int)
    (zstd : Bool) (pg : ProxyGet) (rnd : String)
    (hfresh : ∀ legacy sz, fileLocation kind legacy hash sz rnd ∉ d.files.map Prod.fst) :
    DiskInv (get C d kind hash size offset zstd pg rnd).1 ∧
    (get C d kind hash size offset zstd pg rnd).1.lru.res = d.lru.res := by
  have hl := moves_localLookup C h.lru kind hash size offset zstd
  fun_cases get C d kind hash size offset zstd pg rnd
  -- 1–5 the guards, 6 local hit, 7 no back end to ask, 8 reservation refused, 9 fetch
  case case1 | case2 | case3 | case4 | case5 => exact ⟨h, rfl⟩
  case case6 l1 hit hll => rw [hll] at hl; exact h.index_moved_zero hl
  case case7 l1 hll _ => rw [hll] at hl; exact h.index_moved_zero hl
  case case8 l1 hll _ l2 e hr => rw [hll] at hl; cases reserveIf_err hl.inv hr; exact h.index_moved_zero hl
  case case9 h64 _ _ _ _ l1 hll _ l2 hr =>
    rw [hll] at hl
    exact fetchFromProxy_effect C h kind hash (by simpa using h64) size offset
      ((hl.trans (reserveIf_ok hl.inv hr)).cast (by omega) rfl) zstd pg rnd hfresh

theorem contains_effect {d : Disk} (h : DiskInv d) (kind : Kind) (hash : String) (size : Int) (pc : Bool × Int) :
    DiskInv (contains d kind hash size pc).1 ∧ (contains d kind hash size pc).1.lru.res = d.lru.res := by
  fun_cases contains d kind hash size pc
  case case1 | case2 => exact ⟨h, rfl⟩
  case case3 | case4 | case5 | case6 | case7 => exact h.index_moved_zero (moves_get h.lru ‹_›)

theorem foldl_removeFile (q : List (String × Item)) (files : List (String × Bytes)) :
    q.foldl (fun fs p => removeFile fs (elementPath p.1 p.2)) files =
      files.filter (fun f => !(q.any (fun p => f.1 == elementPath p.1 p.2))) := by
  induction q generalizing files with
  | nil =>
    simp only [List.foldl_nil, List.any_nil, Bool.not_false]
    exact (List.filter_eq_self.mpr (fun _ _ => rfl)).symm
  | cons p ps ih =>
    rw [List.foldl_cons, ih]
    simp only [removeFile, List.filter_filter, List.any_cons]
    congr 1
    funext f
    cases (f.1 == elementPath p.1 p.2) <;> simp

theorem inv_drain {d : Disk} (h : DiskInv d) :
    DiskInv (drain d) ∧ ((drain d).files.map frec).Perm ((qOf (drain d).lru.order).map fspec) ∧
      (drain d).lru.queue = [] := by
  have hfiles : (drain d).files.map frec =
      (d.files.map frec).filter fun x => !((d.lru.queue.map fspec).any fun b => x.1 == b.1) := by
    simp only [drain, foldl_removeFile, List.filter_map, List.any_map]; rfl
  -- the paths are pairwise distinct, so the indexed entries' files are not touched
  have hperm : ((drain d).files.map frec).Perm ((qOf d.lru.order).map fspec) := by
    rw [hfiles]
    refine BR.ListAux.perm_filter_of_perm_append Prod.fst (by simpa [tracked] using h.files_ok) ?_
    simpa [List.map_map, frec, Function.comp_def] using h.paths_nodup
  refine ⟨{ lru := inv_drainAll h.lru, paths_nodup := ?_, files_ok := ?_ }, hperm, rfl⟩
  · simp only [drain, foldl_removeFile]
    exact (List.filter_sublist.map _).nodup h.paths_nodup
  · simpa [drain, tracked, drainAll] using hperm

theorem res_drain (d : Disk) : (drain d).lru.res = d.lru.res := rfl

/-- states reachable from an empty cache by any finite sequence of Put / get / Contains requests
    (any stream, any fault, any back-end answer) and background-remover runs.  The only side
    condition is the one the OS guarantees: `tempfile.Create` (O_EXCL) returns an unused name. -/
inductive Reach (C : Codec) (H : Bytes → String) (cfg : Cfg) (m hl : Int) : Disk → Prop
  | init : Reach C H cfg m hl (init cfg m hl)
  | put {d : Disk} (kind : Kind) (hash : String) (size : Int) (s : Stream) (rnd : String) :
      Reach C H cfg m hl d → (∀ legacy, fileLocation kind legacy hash size rnd ∉ d.files.map Prod.fst) →
      Reach C H cfg m hl (put C H d kind hash size s rnd).1
  | get {d : Disk} (kind : Kind) (hash : String) (size offset : Int) (zstd : Bool) (pg : ProxyGet) (rnd : String) :
      Reach C H cfg m hl d → (∀ legacy sz, fileLocation kind legacy hash sz rnd ∉ d.files.map Prod.fst) →
      Reach C H cfg m hl (get C d kind hash size offset zstd pg rnd).1
  | contains {d : Disk} (kind : Kind) (hash : String) (size : Int) (pc : Bool × Int) :
      Reach C H cfg m hl d → Reach C H cfg m hl (contains d kind hash size pc).1
  | drain {d : Disk} : Reach C H cfg m hl d → Reach C H cfg m hl (drain d)

theorem reach_inv {C : Codec} {H : Bytes → String} {cfg : Cfg} {m hl : Int} (h0 : 0 ≤ m)
    (h1 : m < 9223372036854775808) {d : Disk} (hr : Reach C H cfg m hl d) :
    DiskInv d ∧ d.lru.res = 0 := by
  induction hr with
  | init => exact ⟨inv_init cfg m hl h0 h1, rfl⟩
  | put kind hash size s rnd _ hf ih =>
    obtain ⟨hi, hres, _⟩ := put_effect C H ih.1 kind hash size s rnd (fun _ => hf)
    exact ⟨hi, hres.trans ih.2⟩
  | get kind hash size offset zstd pg rnd _ hf ih =>
    obtain ⟨hi, hres⟩ := get_effect C ih.1 kind hash size offset zstd pg rnd hf
    exact ⟨hi, hres.trans ih.2⟩
  | contains kind hash size pc _ ih =>
    obtain ⟨hi, hres⟩ := contains_effect ih.1 kind hash size pc
    exact ⟨hi, hres.trans ih.2⟩
  | drain _ ih => exact ⟨(inv_drain ih.1).1, ih.2⟩

end BR.Disk
