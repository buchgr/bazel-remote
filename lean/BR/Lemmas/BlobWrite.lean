import BR.Lemmas.BlobRead
/-! `WriteAndClose`: result and images in one statement (`writeAndClose_cases`); the final image is
conformant and reads back; every earlier image is rejected by `parseHeader`. -/
namespace BR.CasBlob

theorem fillChunks_spec : ∀ (wants : List Nat) (data : Bytes),
    ((fillChunks wants data).2 = true ↔ wants.sum ≤ data.length) ∧
    ((fillChunks wants data).2 = true →
      (fillChunks wants data).1.flatten = data.take wants.sum ∧
      (fillChunks wants data).1.map List.length = wants) := by
  intro wants
  induction wants with
  | nil => intro data; simp [fillChunks]
  | cons w ws ih =>
    intro data
    simp only [fillChunks, List.sum_cons]
    by_cases hw : data.length ≥ w
    · simp only [hw, if_true]
      obtain ⟨h1, h2⟩ := ih (data.drop w)
      simp only [List.length_drop] at h1
      refine ⟨by rw [h1]; omega, ?_⟩
      intro hok
      obtain ⟨h3, h4⟩ := h2 hok
      refine ⟨?_, ?_⟩
      · simp only [List.flatten_cons, h3]
        rw [List.take_add]
      · simp only [List.map_cons, List.length_take, h4]
        congr 1; omega
    · simp only [hw, if_false]
      refine ⟨by simp; omega, by simp⟩

theorem wantLens_sum (n cs : Nat) : (wantLens n cs).sum = n := by
  unfold wantLens
  have := Nat.div_add_mod n cs
  split <;> simp [List.sum_append] <;> rw [Nat.mul_comm] <;> omega

theorem wantLens_length_pos {n cs : Nat} (hn : 0 < n) : 0 < (wantLens n cs).length := by
  apply List.length_pos_iff.mpr
  intro h
  have := wantLens_sum n cs
  rw [h] at this
  exact absurd this (by simp; omega)

theorem chunked_of_wantLens {cs n : Nat} (hcs : 0 < cs) (hn : 0 < n) {l : List Bytes}
    (h : l.map List.length = wantLens n cs) : Chunked cs l := by
  -- `q` full chunks and a remainder `r`, by induction on `q`; `match` leaves only the shapes of `l` that fit
  have key : ∀ (q r : Nat) (l : List Bytes), r < cs → (0 < q ∨ 0 < r) →
      l.map List.length = List.replicate q cs ++ (if r > 0 then [r] else []) → Chunked cs l := by
    intro q
    induction q with
    | zero =>
      intro r l hr hq hl
      have hr0 : 0 < r := by omega
      simp only [List.replicate_zero, List.nil_append, hr0, if_true] at hl
      match l, hl with
      | [c], hl =>
        simp only [List.map_cons, List.map_nil, List.cons.injEq, and_true] at hl
        exact Chunked.last c (by omega) (by omega)
    | succ q ih =>
      intro r l hr _ hl
      match l, hl with
      | c :: rest, hl =>
        simp only [List.map_cons, List.replicate_succ, List.cons_append, List.cons.injEq] at hl
        by_cases hq0 : q = 0 ∧ r = 0
        · obtain ⟨rfl, rfl⟩ := hq0
          simp only [List.replicate_zero, List.nil_append, Nat.lt_irrefl, if_false, List.map_eq_nil_iff] at hl
          rw [hl.2]
          exact Chunked.last c (by omega) (by omega)
        · exact Chunked.cons c rest hl.1 (ih r rest hr (by omega) hl.2)
  refine key (n / cs) (n % cs) l (Nat.mod_lt _ hcs) ?_ h
  have := Nat.div_add_mod n cs
  by_cases hq : 0 < n / cs
  · exact Or.inl hq
  · rw [Nat.eq_zero_of_not_pos hq] at this; omega

/-- the images of the file before the final table write: the header with the zero table, then one
    more frame for every chunk read -/
def partialImages (C : Codec) (cs : Nat) (s : Stream) (size : Int) : List Bytes :=
  let hdr0 := encodeHeader (zeroTableHeader size cs ((wantLens size.toNat cs).length + 1))
  hdr0 :: appendImages hdr0 ((fillChunks (wantLens size.toNat cs) s.data).1.map C.enc)

/-- the chunks of an upload, each with its frame -/
def writtenPairs (C : Codec) (cs : Nat) (s : Stream) (size : Int) : List (Bytes × Bytes) :=
  (fillChunks (wantLens size.toNat cs) s.data).1.map (fun c => (C.enc c, c))

/-- the file a successful `WriteAndClose` leaves -/
def finalImage (C : Codec) (cs : Nat) (s : Stream) (size : Int) : Bytes :=
  encodeHeader (hdrOf cs (writtenPairs C cs s size)) ++ (framesOf (writtenPairs C cs s size)).flatten

theorem writtenPairs_exact (C : Codec) (cs : Nat) {s : Stream} {size : Int} (hpos : 0 < size)
    (hlen : (s.data.length : Int) = size) :
    dataOf (writtenPairs C cs s size) = s.data ∧
    (writtenPairs C cs s size).length = (wantLens size.toNat cs).length ∧
    (0 < cs → Chunked cs (chunksOf (writtenPairs C cs s size))) := by
  obtain ⟨h1, h2⟩ := fillChunks_spec (wantLens size.toNat cs) s.data
  rw [wantLens_sum] at h1 h2
  obtain ⟨h3, h4⟩ := h2 (h1.mpr (by omega))
  have hch : chunksOf (writtenPairs C cs s size) = (fillChunks (wantLens size.toNat cs) s.data).1 := by
    simp [chunksOf, writtenPairs, Function.comp_def]
  refine ⟨by rw [dataOf, hch, h3, List.take_of_length_le (by omega)],
    by rw [writtenPairs, List.length_map, ← List.length_map (f := List.length), h4],
    fun hcs => hch ▸ chunked_of_wantLens hcs (by omega) h4⟩

/-- Result and file images of `WriteAndClose` together (the images are what a kill can leave behind);
    the chunk size may be anything, only conformance of the final image needs it positive. -/
theorem writeAndClose_cases (C : Codec) (H : Bytes → String) (cs : Nat) (s : Stream) (size : Int)
    (hash : String) :
    ((0 < size ∧ s.fault = false ∧ (s.data.length : Int) = size ∧ H s.data = hash) ∧
      writeAndClose C H cs s size hash =
        ⟨partialImages C cs s size ++ [finalImage C cs s size], .ok ((finalImage C cs s size).length : Int)⟩) ∨
    (¬ (0 < size ∧ s.fault = false ∧ (s.data.length : Int) = size ∧ H s.data = hash) ∧
      ∃ e, writeAndClose C H cs s size hash = ⟨if size ≤ 0 then [] else partialImages C cs s size, .error e⟩) := by
  unfold writeAndClose
  by_cases hsz : size ≤ 0
  · exact Or.inr ⟨by omega, .badSize, by simp only [hsz, if_true]⟩
  simp only [hsz, if_false]
  obtain ⟨h1, h2⟩ := fillChunks_spec (wantLens size.toNat cs) s.data
  rw [wantLens_sum] at h1 h2
  by_cases hfill : (fillChunks (wantLens size.toNat cs) s.data).2 = true
  case neg =>
    rw [if_pos (by simpa using hfill)]
    exact Or.inr ⟨fun ⟨_, _, h, _⟩ => hfill (h1.mpr (by omega)), _, rfl⟩
  rw [if_neg (by simp [hfill])]
  have hge := h1.mp hfill
  by_cases hx : s.data.length - size.toNat ≥ defaultChunkSize
  · rw [if_pos hx]
    exact Or.inr ⟨fun ⟨_, _, h, _⟩ => by unfold defaultChunkSize at hx; omega, _, rfl⟩
  rw [if_neg hx]
  by_cases hy : (decide (s.data.length - size.toNat > 0) || s.fault) = true
  · rw [if_pos hy]
    refine Or.inr ⟨fun ⟨_, hf, h, _⟩ => ?_, _, rfl⟩
    simp only [Bool.or_eq_true, decide_eq_true_eq, hf, Bool.false_eq_true, or_false] at hy
    omega
  rw [if_neg hy]
  simp only [Bool.or_eq_true, decide_eq_true_eq, not_or, Bool.not_eq_true] at hy
  have hlen : (s.data.length : Int) = size := by omega
  rw [(h2 hfill).1, List.take_of_length_le (by omega)]
  by_cases hh : H s.data ≠ hash
  · rw [if_pos hh]
    exact Or.inr ⟨fun ⟨_, _, _, h⟩ => hh h, _, rfl⟩
  rw [if_neg hh]
  refine Or.inl ⟨⟨by omega, hy.2, hlen, Decidable.not_not.mp hh⟩, ?_⟩
  obtain ⟨hdata, hplen, _⟩ := writtenPairs_exact C cs (by omega) hlen
  simp only [partialImages, finalImage, hdrOf, hdata, hlen, hplen]
  simp only [writtenPairs, framesOf, List.map_map, Function.comp_def]

/-- **acknowledged only if the bytes match**: with a positive chunk size, `WriteAndClose` returns
    success iff the declared size is positive, the reader delivered exactly that many bytes and then
    a clean EOF, and they hash to the declared digest.  Every other stream — short, long (trailing
    bytes), failing reader, wrong hash, wrong declared size — is an error. -/
theorem write_ok_iff (C : Codec) (H : Bytes → String) (cs : Nat) (hcs : 0 < cs) (s : Stream) (size : Int)
    (hash : String) :
    (∃ n, (writeAndClose C H cs s size hash).result = .ok n) ↔
      (0 < size ∧ s.fault = false ∧ (s.data.length : Int) = size ∧ H s.data = hash) := by
  rcases writeAndClose_cases C H cs s size hash with ⟨hex, hw⟩ | ⟨hex, e, hw⟩ <;> rw [hw]
  · exact ⟨fun _ => hex, fun _ => ⟨_, rfl⟩⟩
  · exact ⟨(fun ⟨_, h⟩ => nomatch h), fun h => absurd h hex⟩

theorem writeAndClose_ok_len {C : Codec} {H : Bytes → String} {cs : Nat} {s : Stream} {size : Int} {hash : String}
    {n : Int} {img : Bytes} (hr : (writeAndClose C H cs s size hash).result = .ok n)
    (hi : (writeAndClose C H cs s size hash).images.getLast? = some img) : n = (img.length : Int) := by
  rcases writeAndClose_cases C H cs s size hash with ⟨_, hw⟩ | ⟨_, e, hw⟩ <;> rw [hw] at hr hi
  · rw [List.getLast?_concat] at hi
    cases hr; cases hi; rfl
  · cases hr

theorem writeAndClose_exact (C : Codec) (H : Bytes → String) (cs : Nat) {s : Stream} {size : Int} {hash : String}
    (hok : 0 < size ∧ s.fault = false ∧ (s.data.length : Int) = size ∧ H s.data = hash) :
    writeAndClose C H cs s size hash =
      ⟨partialImages C cs s size ++ [finalImage C cs s size], .ok ((finalImage C cs s size).length : Int)⟩ :=
  (writeAndClose_cases C H cs s size hash).elim (·.2) (absurd hok ·.1)

theorem writeAndClose_last (C : Codec) (H : Bytes → String) (cs : Nat) {s : Stream} {size : Int} {hash : String}
    (hok : 0 < size ∧ s.fault = false ∧ (s.data.length : Int) = size ∧ H s.data = hash) :
    (writeAndClose C H cs s size hash).images.getLast? = some (finalImage C cs s size) := by
  rw [writeAndClose_exact C H cs hok]; exact List.getLast?_concat

/-- what a successful `WriteAndClose` leaves on disk is a v2 CAS blob in the published format; `hcs2`, `hsize`,
    `hsmall`, `hfit` keep chunk size, sizes and table within the uint32 / int64 fields of the header (the bounds of `Conformant`) -/
theorem finalImage_conformant (C : Codec) (hl : C.Lawful) {cs : Nat} (hcs : 0 < cs) (hcs2 : cs < 4294967296)
    {s : Stream} {size : Int} (hpos : 0 < size) (hlen : (s.data.length : Int) = size)
    (hsize : size < 9223372036854775808) (hsmall : ((finalImage C cs s size).length : Int) < 9223372036854775808)
    (hfit : 8 * ((wantLens size.toNat cs).length + 1) + 21 < 4294967296) :
    Conformant C cs (writtenPairs C cs s size) (finalImage C cs s size) := by
  obtain ⟨hdata, hplen, hch⟩ := writtenPairs_exact C cs hpos hlen
  refine { frames_ok := ?_, chunked := hch hcs, cs_lt := hcs2, file_eq := rfl, file_small := hsmall,
           data_small := by rw [hdata, hlen]; exact hsize, nfit := by rw [hplen]; exact hfit }
  intro p hp
  simp only [writtenPairs, List.mem_map] at hp
  obtain ⟨c, _, rfl⟩ := hp
  exact hl.enc_frame c

/-- a successful upload reads back, at any offset, with the size stated or not -/
theorem written_readRaw (C : Codec) (hl : C.Lawful) (H : Bytes → String) {cs : Nat} (hcs : 0 < cs)
    (hcs2 : cs < 4294967296) {s : Stream} {size : Int} {hash : String}
    (hok : 0 < size ∧ s.fault = false ∧ (s.data.length : Int) = size ∧ H s.data = hash)
    (hsize : size < 9223372036854775808) {final : Bytes}
    (hlast : (writeAndClose C H cs s size hash).images.getLast? = some final)
    (hsmall : (final.length : Int) < 9223372036854775808)
    (hfit : 8 * ((wantLens size.toNat cs).length + 1) + 21 < 4294967296)
    (off : Nat) (hoff : off < s.data.length) (expectedSize : Int) (hexp : expectedSize = -1 ∨ expectedSize = size) :
    readRaw C final expectedSize (off : Int) = .ok (s.data.drop off, true) := by
  cases (writeAndClose_last C H cs hok).symm.trans hlast
  obtain ⟨hpos, _, hlen, _⟩ := hok
  obtain ⟨hdata, _⟩ := writtenPairs_exact C cs hpos hlen
  have := readRaw_conformant hl (finalImage_conformant C hl hcs hcs2 hpos hlen hsize hsmall hfit) off
    (hdata ▸ hoff) expectedSize (by rw [hdata, hlen]; exact hexp)
  rwa [hdata] at this

theorem appendImages_prefix : ∀ (frames : List Bytes) (hdr b : Bytes), ∀ img ∈ appendImages (hdr ++ b) frames,
    ∃ body, img = hdr ++ body := by
  intro frames
  induction frames with
  | nil => intro hdr b img h; cases h
  | cons f fs ih =>
    intro hdr b img h
    simp only [appendImages, List.mem_cons] at h
    rcases h with h | h
    · exact ⟨b ++ f, by rw [h, List.append_assoc]⟩
    · rw [List.append_assoc] at h
      exact ih hdr (b ++ f) img h

/-- Every image before the final table write is refused by `readHeader`: it begins with the header that
    `WriteAndClose` writes first, whose table is still `29, 0, …, 0`, and 0 is not above 29. -/
theorem partialImages_rejected (C : Codec) {cs : Nat} (hcs2 : cs < 4294967296) (s : Stream) {size : Int}
    (hs : 0 < size ∧ size < 9223372036854775808)
    (hfit : 8 * ((wantLens size.toNat cs).length + 1) + 21 < 4294967296) :
    ∀ img ∈ partialImages C cs s size, ∀ h, parseHeader img ≠ .ok h := by
  intro img himg h hp
  -- there is at least one chunk, hence a second table entry
  obtain ⟨m, hm⟩ : ∃ m, (wantLens size.toNat cs).length = m + 1 :=
    ⟨_, (Nat.sub_add_cancel (wantLens_length_pos (by omega))).symm⟩
  obtain ⟨body, rfl⟩ : ∃ body, img = encodeHeader (zeroTableHeader size cs ((wantLens size.toNat cs).length + 1)) ++ body := by
    rcases List.mem_cons.mp himg with rfl | hx
    · exact ⟨[], (List.append_nil _).symm⟩
    · exact appendImages_prefix _ _ [] img (by simpa using hx)
  rw [hm] at hfit hp
  -- that header is within the field ranges, so if the image parsed it would parse to that very header
  have hw : WfHeader (zeroTableHeader size cs (m + 1 + 1)) := by
    refine { usize := ⟨by simp [zeroTableHeader]; omega, hs.2⟩, comp := by simp [zeroTableHeader],
             cs := hcs2, offs := ?_, n2 := by simp [zeroTableHeader], nfit := by simp [zeroTableHeader]; omega }
    intro o ho
    simp only [zeroTableHeader, Nat.add_sub_cancel, List.mem_cons, List.mem_replicate] at ho
    rcases ho with rfl | ⟨_, rfl⟩ <;> omega
  have hinc := (parseHeader_ok_iff.mp hp).inc
  rw [parse_encode_unique hw hp] at hinc
  simp [zeroTableHeader, List.replicate_succ] at hinc

end BR.CasBlob
