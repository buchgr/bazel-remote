import BR.Model.Proto
/-! M10.  In the resource-name parsers only `rem[i]` can panic, and not below the length
(`at?_bind_ne_panic`).  After its first message the receive loop of ByteStream.Write ends in an
error or at a byte count which, for an uncompressed upload, is the declared size
(`recvRest_cases`).  The send loop of ByteStream.Read delivers a prefix of what the blob reader
hands out, within the limit (`sendLoop_prefix`), and all of it when that fits (`sendLoop_all`). -/
namespace BR.Proto

theorem PRes.bind_ne_panic {α β} {x : PRes α} {f : α → PRes β} (hx : x ≠ .panic) (hf : ∀ a, f a ≠ .panic) :
    (x >>= f) ≠ .panic := by
  cases x with
  | ok a => exact hf a
  | err => nofun
  | panic => exact absurd rfl hx

theorem at?_ne_panic {l : List String} {i : Nat} (h : i < l.length) : at? l i ≠ .panic := by
  simp [at?, List.getElem?_eq_getElem h]

/-- `rem[i]` behind a length test, followed by steps that cannot panic: how both parsers read -/
theorem at?_bind_ne_panic {β} {l : List String} {i : Nat} {f : String → PRes β} (h : i < l.length)
    (hf : ∀ s, f s ≠ .panic) : (at? l i >>= f) ≠ .panic :=
  PRes.bind_ne_panic (at?_ne_panic h) hf

theorem sizeAndHash_ne_panic (h s : String) : sizeAndHash h s ≠ .panic := by
  unfold sizeAndHash
  split
  · nofun
  split
  · nofun
  split <;> nofun

theorem afterFirst_append {kw : String} {pre : List String} (hpre : kw ∉ pre) (tail : List String) :
    afterFirst kw (pre ++ kw :: tail) = some tail := by
  induction pre with
  | nil => simp [afterFirst]
  | cons p ps ih =>
    rw [List.mem_cons, not_or] at hpre
    simp [afterFirst, Ne.symm hpre.1, ih hpre.2]

theorem recvStep_error {st : RState} {m : WMsg} {r : Recv} : recvStep st m = .error r →
    r = .err ∨ ∃ c, r = .eof c ∧ (st.zstd = false → c = st.size) := by
  fun_cases recvStep st m
  case case4 _ _ _ h => rintro ⟨⟩; exact .inr ⟨_, rfl, by simpa using h⟩   -- `finish_write` with the size test passed
  case case5 => nofun                                                      -- the stream goes on
  all_goals rintro ⟨⟩; exact .inl rfl

theorem recvStep_ok {st st' : RState} {m : WMsg} : recvStep st m = .ok st' →
    st'.zstd = st.zstd ∧ st'.size = st.size := by
  fun_cases recvStep st m
  case case5 => rintro ⟨⟩; exact ⟨rfl, rfl⟩
  all_goals nofun

theorem recvRest_cases (st : RState) (ms : List WMsg) :
    recvRest st ms = .err ∨ ∃ c, recvRest st ms = .eof c ∧ (st.zstd = false → c = st.size) := by
  fun_induction recvRest st ms with
  | case1 => exact .inl rfl
  | case2 st h => exact .inr ⟨_, rfl, fun hz => by simpa [hz] using h⟩
  | case3 st m ms r h => exact recvStep_error h
  | case4 st m ms st' h ih =>
    obtain ⟨hz, hs⟩ := recvStep_ok h
    rwa [hz, hs] at ih

theorem sendLoop_all {limited : Bool} {reads : List Nat} {rem : Int}
    (h : limited = true → (reads.sum : Int) ≤ rem) : sendLoop limited rem reads = (reads.sum, true) := by
  fun_induction sendLoop limited rem reads with
  | case1 => rfl
  | case2 rem n ns hc =>
    have := h hc.1; simp only [List.sum_cons, Int.natCast_add] at this; omega
  | case3 rem n ns hc r ih =>
    simp only [List.sum_cons, Int.natCast_add] at h
    simp [r, ih (fun hl => by have := h hl; omega)]

theorem sendLoop_prefix (limited : Bool) (rem : Int) (reads : List Nat) :
    ∃ k, k ≤ reads.length ∧ (sendLoop limited rem reads).1 = (reads.take k).sum ∧
      ((sendLoop limited rem reads).2 = true → k = reads.length) ∧
      (limited = true → 0 ≤ rem → ((sendLoop limited rem reads).1 : Int) ≤ rem) := by
  fun_induction sendLoop limited rem reads with
  | case1 => exact ⟨0, Nat.le_refl _, rfl, fun _ => rfl, fun _ h => h⟩
  | case2 rem n ns hc => exact ⟨0, Nat.zero_le _, rfl, nofun, fun _ h => h⟩
  | case3 rem n ns hc r ih =>
    obtain ⟨k, hk, he, hok, hle⟩ := ih
    refine ⟨k + 1, Nat.succ_le_succ hk, by simp [r, he], fun h => by simp [hok h], fun hl h0 => ?_⟩
    have hn : 0 ≤ rem - (n : Int) := Int.not_lt.mp fun hh => hc ⟨hl, hh⟩
    have := hle hl hn
    simp only [r, Int.natCast_add]; omega

/-- the call ends OK exactly when everything was delivered -/
theorem sendLoop_ok_iff (limited : Bool) : ∀ (reads : List Nat) (rem : Int),
    (sendLoop limited rem reads).2 = true → (sendLoop limited rem reads).1 = reads.sum := by
  intro reads rem h
  obtain ⟨k, _, he, hok, _⟩ := sendLoop_prefix limited rem reads
  rw [he, hok h, List.take_length]

end BR.Proto
