import BR.Lemmas.BlobLE
import BR.Lemmas.BlobParse
/-! Header encode/parse: field extraction and the round trip `parseHeader (encodeHeader h ++ body)`. -/
namespace BR.CasBlob

/-- the value ranges of the Go field types -/
structure WfHeader (h : Header) : Prop where
  usize : -9223372036854775808 ≤ h.uncompressedSize ∧ h.uncompressedSize < 9223372036854775808
  comp : h.compression < 256
  cs : h.chunkSize < 4294967296
  offs : ∀ o ∈ h.chunkOffsets, -9223372036854775808 ≤ o ∧ o < 9223372036854775808
  n2 : 2 ≤ h.chunkOffsets.length
  nfit : 8 * h.chunkOffsets.length + 21 < 4294967296  -- `frameSize()` is computed in uint32

theorem encodeHeader_length (h : Header) : (encodeHeader h).length = 29 + 8 * h.chunkOffsets.length := by
  simp [encodeHeader, -List.length_flatMap]; omega

/-- the accessors of `readHeader` find the fields of `h` in `file`, at the offsets of the published layout -/
structure Fields (file : Bytes) (h : Header) : Prop where
  magic : u32At file 0 = magic
  frame : u32At file 4 = h.frameSize
  usize : i64At file 8 = h.uncompressedSize
  comp : u8At file 16 = h.compression
  cs : u32At file 17 = h.chunkSize
  num : i64At file 21 = (h.chunkOffsets.length : Int)
  table : readOffsets file h.chunkOffsets.length = h.chunkOffsets

theorem Fields.raw {file : Bytes} {h : Header} (hf : Fields file h) : rawHeader file = h := by
  simp [rawHeader, hf.usize, hf.comp, hf.cs, hf.num, hf.table]

theorem fields_of_encode (h : Header) (hw : WfHeader h) (body : Bytes) : Fields (encodeHeader h ++ body) h := by
  have hfs : h.frameSize < 4294967296 := Nat.mod_lt _ (by decide)
  have hn := hw.nfit
  refine { magic := ?_, frame := ?_, usize := ?_, comp := ?_, cs := ?_, num := ?_, table := ?table }
  case table =>
    have := readTable h.chunkOffsets hw.offs (le32 magic ++ le32 h.frameSize ++ le64i h.uncompressedSize ++
      [h.compression % 256] ++ le32 h.chunkSize ++ le64i (h.chunkOffsets.length : Int)) body
    simpa [readOffsets, encodeHeader] using this
  -- peel off the pieces that end before the literal offset; the accessor then reads the head of what is left
  all_goals
    simp only [u32At, i64At, u8At, encodeHeader, List.append_assoc, List.drop_append, List.drop_eq_nil_of_le,
      List.nil_append, le32_length, le64i_length, List.length_cons, List.length_nil, Nat.reduceLeDiff, Nat.reduceSub,
      Nat.reduceAdd, List.drop_zero,
      List.take_left' (le32_length _), List.take_left' (le64i_length _)]
  · exact fromLE_le32 _ (by decide)
  · exact fromLE_le32 _ hfs
  · exact toI64_le64i _ hw.usize
  · simp [fromLE, Nat.mod_eq_of_lt hw.comp]
  · exact fromLE_le32 _ hw.cs
  · exact toI64_le64i _ (by omega)

theorem parse_encode_unique {h0 h : Header} (hw : WfHeader h0) {body : Bytes}
    (hp : parseHeader (encodeHeader h0 ++ body) = .ok h) : h = h0 :=
  (parseHeader_ok_iff.mp hp).raw.symm.trans (fields_of_encode h0 hw body).raw

/-- **round trip**: a header within the field ranges, followed by any body such that the table is
    strictly increasing and ends at the file size, is read back unchanged -/
theorem parse_encode (h : Header) (hw : WfHeader h) (body : Bytes)
    (hbig : 45 < (encodeHeader h ++ body).length)
    (hinc : increasingFrom (-1) h.chunkOffsets = true)
    (hlast : lastOr (-1) h.chunkOffsets = ((encodeHeader h ++ body).length : Int))
    (hz : h.compression = 1 → h.chunkSize ≠ 0 ∧ 0 < h.uncompressedSize ∧
      numChunksFor h.uncompressedSize h.chunkSize = (h.chunkOffsets.length : Int) - 1) :
    parseHeader (encodeHeader h ++ body) = .ok h := by
  have hf := fields_of_encode h hw body
  have hn := hw.nfit
  refine parseHeader_ok_iff.mpr
    { raw := hf.raw, num := hf.num, big := hbig, magic := hf.magic, n2 := hw.n2, fits := ?_, frame := ?_,
      inc := hinc, last := hlast, zstd := hz }
  · rw [List.length_append, encodeHeader_length]; omega
  · rw [hf.frame, Header.frameSize]; omega

end BR.CasBlob
