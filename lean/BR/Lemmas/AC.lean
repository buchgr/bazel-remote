import BR.Model.AC
/-! M8.  `validate` answers `none` iff each part does (`firstErr_none_iff`, `orElse_eq_none`).
`readTrees` in closed form: the first tree digest that is absent or does not decode decides
(`readTrees_eq`); what a hit of `lookup` means, and an error, are read off that. -/
namespace BR.AC

theorem firstErr_none_iff {α} (f : α → Option VErr) (l : List α) : firstErr f l = none ↔ ∀ x ∈ l, f x = none := by
  induction l with
  | nil => simp [firstErr]
  | cons y ys ih => cases hy : f y <;> simp [firstErr, hy, ih]

theorem orElse_eq_none (a b : Option VErr) : orElse a b = none ↔ a = none ∧ b = none := by
  cases a <;> simp [orElse]

theorem readTrees_eq (present : Present) (treeOf : Digest → Option Tree) (ds : List Digest) :
    readTrees present treeOf ds =
      match ds.find? (fun d => !present d || (treeOf d).isNone) with
      | none => .ok (ds.filterMap treeOf)
      | some d => .error (if present d then .err else .miss) := by
  induction ds with
  | nil => rfl
  | cons d rest ih =>
    rw [readTrees, ih, List.find?_cons]
    cases hp : present d <;> cases ht : treeOf d <;> simp [hp, ht]
    cases rest.find? _ <;> rfl

theorem lookup_hit_iff (present : Present) (ar : ActionResult) (treeOf : Digest → Option Tree) :
    lookup present ar treeOf = .hit ↔
      (∀ d ∈ treeDigests ar, present d = true ∧ (treeOf d).isSome) ∧
      (pending ar ((treeDigests ar).filterMap treeOf)).all present = true := by
  rw [lookup, readTrees_eq]
  cases hf : (treeDigests ar).find? _ with
  | none =>
    have : ∀ d ∈ treeDigests ar, present d = true ∧ (treeOf d).isSome := by
      simpa [← Option.isSome_iff_ne_none] using hf
    simpa using fun _ => this
  | some d =>
    have hbad : present d = false ∨ treeOf d = none := by simpa using List.find?_some hf
    have hnot : ¬ ∀ d ∈ treeDigests ar, present d = true ∧ (treeOf d).isSome := fun h => by
      have := h d (List.mem_of_find?_eq_some hf); rcases hbad with hb | hb <;> simp [hb] at this
    by_cases hp : present d = true <;> simp [hp, hnot]

theorem lookup_err {present : Present} {ar : ActionResult} {treeOf : Digest → Option Tree}
    (h : lookup present ar treeOf = .err) : ∃ d ∈ treeDigests ar, present d = true ∧ treeOf d = none := by
  rw [lookup, readTrees_eq] at h
  cases hf : (treeDigests ar).find? _ with
  | none => rw [hf] at h; dsimp only at h; split at h <;> cases h
  | some d =>
    have hbad : present d = false ∨ treeOf d = none := by simpa using List.find?_some hf
    by_cases hp : present d = true
    · exact ⟨d, List.mem_of_find?_eq_some hf, hp, hbad.resolve_left (by simp [hp])⟩
    · simp [hf, hp] at h

end BR.AC
