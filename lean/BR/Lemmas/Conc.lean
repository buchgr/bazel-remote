import BR.Lemmas.ConcStep
import BR.Lemmas.DiskCommit
/-! Accounting invariant of model M5 (index invariant, limits, reservations = what the uploads in flight
hold, provenance of files and read results), and how it is carried over the advance of one upload
(`CInv.setPut`), of one read (`CInv.setGet`), or a change of index, files and reads that leaves the uploads alone
(`CInv.frame`). -/
namespace BR.Conc
open BR.Lru BR.ListAux

/-- `c` is the complete content of an upload to `key` whose file has been written -/
def Src (puts : List PutT) (key : String) (c : List Nat) : Prop :=
  ∃ (i : Nat) (p : PutT), puts[i]? = some p ∧ p.key = key ∧ p.data = c ∧ p.wrote = true

/-- A consistent state of a cache started with `max_size = M`, `max_size_hard_limit = H`.  The two limit
fields say that no step touches the configuration; they let the admission test of a reachable state
be read in terms of `M` and `H` (C17). -/
structure CInv (M H : Int) (s : State) : Prop where
  lru : Inv s.lru
  maxSize : s.lru.maxSize = M
  hardLimit : s.lru.hardLimit = H
  res : s.lru.res = (s.puts.map PutT.held).sum
  files : ∀ f ∈ s.files, Src s.puts f.key f.content
  reads : ∀ g ∈ s.gets, ∀ c, g.pc = .done (some c) → Src s.puts g.key c

variable {s : State}

theorem Src.set {puts : List PutT} {i : Nat} {p : PutT} (hp : puts[i]? = some p) {pc' : PutPc}
    (hw : p.wrote = true → PutT.wrote { p with pc := pc' } = true) {key : String} {c : List Nat} (h : Src puts key c) :
    Src (puts.set i { p with pc := pc' }) key c :=
  exists_getElem?_set hp (fun ⟨hk, hd, hw0⟩ => ⟨hk, hd, hw hw0⟩) h

theorem fileOf_spec {fs : List File} {key rnd : String} {f : File} (h : fileOf fs key rnd = some f) :
    f ∈ fs ∧ f.key = key ∧ f.rnd = rnd :=
  let ⟨hm, hk⟩ := find?_key (fun x : File => (x.key, x.rnd)) (key, rnd) h
  ⟨hm, congrArg Prod.fst hk, congrArg Prod.snd hk⟩

theorem fileOf_of_mem {fs : List File} (hn : (fs.map File.rnd).Nodup) {f : File} (hf : f ∈ fs) :
    fileOf fs f.key f.rnd = some f :=
  find?_of_mem_nodup (fun x : File => (x.key, x.rnd)) hf (nodup_of_map_snd _ hn)

theorem held_nonneg (p : PutT) : 0 ≤ p.held := by
  unfold PutT.held PutT.size
  split <;> omega

theorem itemOf_nonneg (p : PutT) (i : Nat) : 0 ≤ (itemOf p i).sizeOnDisk ∧ 0 ≤ (itemOf p i).size := by
  simp only [itemOf, PutT.size]; omega

theorem removeIfSame_cases (l : Lru) (e : Elem) : removeIfSame l e = l ∨
    ∃ cur, l.order.find? (fun x => x.id == e.id) = some cur ∧ cur.val.random = e.val.random ∧
      removeIfSame l e = removeElemId l e.id := by
  unfold removeIfSame
  split
  · rename_i cur hcur
    split
    · rename_i hsame
      exact .inr ⟨cur, hcur, by simpa using hsame, rfl⟩
    · exact .inl rfl
  · exact .inl rfl

theorem moves_removeIfSame {l : Lru} (h : Inv l) (e : Elem) : Moves l (removeIfSame l e) 0 [] := by
  rcases removeIfSame_cases l e with he | ⟨_, _, _, he⟩ <;> rw [he]
  · exact .refl h
  · exact moves_removeElemId h e.id

theorem CInv.frame {M H : Int} (h : CInv M H s) {l : Lru} (hl : Inv l) (hm : l.maxSize = s.lru.maxSize)
    (hh : l.hardLimit = s.lru.hardLimit) (hr : l.res = s.lru.res)
    {fs : List File} (hfs : ∀ f ∈ fs, Src s.puts f.key f.content)
    {gs : List GetT} (hgs : ∀ g ∈ gs, ∀ c, g.pc = .done (some c) → Src s.puts g.key c) :
    CInv M H { s with lru := l, files := fs, gets := gs } :=
  ⟨hl, hm.trans h.maxSize, hh.trans h.hardLimit, hr.trans h.res, hfs, hgs⟩

theorem CInv.setGet {M H : Int} (h : CInv M H s) {l : Lru} {new : List (String × Item)} (he : Moves s.lru l 0 new)
    (j : Nat) {g' : GetT} (hd : ∀ c, g'.pc = .done (some c) → Src s.puts g'.key c) :
    CInv M H (setGet { s with lru := l } j g') :=
  h.frame he.inv he.maxSize he.hardLimit (he.res.trans (Int.add_zero _)) h.files fun g hg c hc => by
    rcases List.mem_or_eq_of_mem_set hg with hg | rfl
    · exact h.reads g hg c hc
    · exact hd c hc

theorem CInv.src_open {M H : Int} (h : CInv M H s) {key rnd : String} {f : File} (hf : fileOf s.files key rnd = some f)
    (e : Elem) (c : List Nat) (hc : openResult f e = .done (some c)) : Src s.puts key c := by
  obtain ⟨hm, hk, _⟩ := fileOf_spec hf
  unfold openResult at hc
  split at hc
  · cases hc
  · cases hc; exact hk ▸ h.files f hm

/-- Upload `i` advances to `pc'` while index and files change: `hd` what it holds afterwards, `hw` once written stays
written, `hfs` every new file is its own and complete. -/
theorem CInv.setPut {M H : Int} (h : CInv M H s) {i : Nat} {p : PutT} (hp : s.puts[i]? = some p) {pc' : PutPc}
    {l : Lru} {d : Int} {new : List (String × Item)} (he : Moves s.lru l d new)
    (hd : PutT.held { p with pc := pc' } = p.held + d)
    (hw : p.wrote = true → PutT.wrote { p with pc := pc' } = true) {fs : List File}
    (hfs : ∀ f ∈ fs, f ∈ s.files ∨ (f.key = p.key ∧ f.content = p.data ∧ PutT.wrote { p with pc := pc' } = true)) :
    CInv M H (setPut { s with lru := l, files := fs } i { p with pc := pc' }) := by
  refine ⟨he.inv, he.maxSize.trans h.maxSize, he.hardLimit.trans h.hardLimit, ?_, ?_, ?_⟩
  · show l.res = ((s.puts.set i _).map PutT.held).sum
    rw [sum_map_set PutT.held hp, he.res, h.res, hd]; omega
  · intro f hf
    rcases hfs f hf with hf | ⟨hk, hc, hw'⟩
    · exact (h.files f hf).set hp hw
    · exact ⟨i, { p with pc := pc' }, (getElem?_set_of hp _ i).trans (if_pos rfl), hk.symm, hc.symm, hw'⟩
  · intro g hg c hc
    exact (h.reads g hg c hc).set hp hw

/-- an upload between `Reserve` and `commit` holds its size, so the index has that much reserved -/
theorem CInv.holding {M H : Int} (h : CInv M H s) {i : Nat} {p : PutT} (hp : s.puts[i]? = some p)
    (hpc : p.pc = .reserved ∨ p.pc = .written) : p.size ≤ s.lru.res := by
  have hle := le_sum_map PutT.held (fun x _ => held_nonneg x) (List.mem_of_getElem? hp)
  rw [← h.res] at hle
  rcases hpc with e | e <;> simpa [PutT.held, e] using hle

theorem cinv_init (M H : Int) (h0 : 0 ≤ M) (h1 : M < 9223372036854775808) (puts : List (String × List Nat))
    (gets : List String) : CInv M H (initState M H puts gets) := by
  refine ⟨inv_init M H h0 h1, rfl, rfl, ?_, ?_, ?_⟩
  · refine (sum_map_eq_zero PutT.held fun p hp => ?_).symm
    obtain ⟨q, _, rfl⟩ := List.mem_map.mp hp
    rfl
  · intro f hf; cases hf
  · intro g hg c hc
    obtain ⟨k, _, rfl⟩ := List.mem_map.mp hg
    cases hc

end BR.Conc
