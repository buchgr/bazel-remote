import BR.Lemmas.DiskInv
/-! What an answer of `Put` means (C01, C12, C18 at the disk layer). -/
namespace BR.Disk
open BR.Lru BR.CasBlob

theorem codeOfErr_ne_ok (e : Err) : codeOfErr e ≠ .ok := by cases e <;> simp [codeOfErr]

/-- the `lruItem` that `Put` and `get` hand to `commit` for the file they created (`newItem` in disk.go `commit`).
    The model writes the record out where it is built, in `put` and in `fetchCore`; it has a name here so that the
    statements below can speak of the entry an acknowledged `Put` leaves -/
def newItem (cfg : Cfg) (kind : Kind) (size ondisk : Int) (rnd : String) : Item :=
  { size := size, sizeOnDisk := ondisk, random := rnd, legacy := decide (kind = .cas ∧ cfg.mode = .identity) }

theorem put_ok_cases {C : Codec} {H : Bytes → String} {d : Disk} {kind : Kind} {hash : String} {size : Int}
    {s : Stream} {rnd : String} (hok : (put C H d kind hash size s rnd).2 = .ok) :
    0 ≤ size ∧ size ≤ d.cfg.maxBlobSize ∧ hash.length = 64 ∧
    ((kind = .cas ∧ size = 0 ∧ hash = emptySha256 ∧ s.data = []) ∨
     ∃ l1 content ondisk l2,
        (if size > 0 then reserve d.lru size else (d.lru, none)) = (l1, none) ∧
        writeFile C H d.cfg kind hash size s = some (content, ondisk) ∧
        commit l1 (lookupKey kind hash) size (newItem d.cfg kind size ondisk rnd) = (l2, .ok) ∧
        (put C H d kind hash size s rnd).1 =
          { d with lru := l2,
                   proxyPuts := if d.cfg.hasProxy then d.proxyPuts ++ [⟨kind, hash, size, ondisk, content⟩] else d.proxyPuts,
                   files := d.files ++ [(fileLocation kind (newItem d.cfg kind size ondisk rnd).legacy hash size rnd, content)] }) := by
  revert hok
  fun_cases put C H d kind hash size s rnd <;> intro hok
  -- 1–3 the guards, 4–5 the empty blob, 6 reservation refused, 7 write failed, 8 committed, 9 commit refused;
  -- what a case binds is listed in `put_effect`
  case case1 | case2 | case3 | case5 | case7 => cases hok
  case case4 h1 h2 h3 he hd =>
    obtain ⟨hk, hs0, hh⟩ := he
    exact ⟨by omega, by omega, by simpa using h3, .inl ⟨hk, hs0, hh, by simpa using hd⟩⟩
  case case6 e _ => exact absurd hok (codeOfErr_ne_ok e)
  case case8 h1 h2 h3 _ l1 _ content ondisk hw _ _ l2 hc hr =>
    exact ⟨by omega, by omega, by simpa using h3, .inr ⟨l1, content, ondisk, l2, hr, hw, hc, rfl⟩⟩
  case case9 hno _ _ => exact absurd hok hno

/-- C01; stated again, and described, as `BR.Props.C01.put_ack_only_if` -/
theorem put_ack_only_if (C : Codec) (H : Bytes → String) (d : Disk) (hcs : 0 < d.cfg.chunkSize) (kind : Kind)
    (hash : String) (size : Int) (s : Stream) (rnd : String)
    (hok : (put C H d kind hash size s rnd).2 = .ok) :
    0 ≤ size ∧ size ≤ d.cfg.maxBlobSize ∧ hash.length = 64 ∧
    ((kind = .cas ∧ size = 0 ∧ hash = emptySha256 ∧ s.data = []) ∨
     (s.fault = false ∧ (s.data.length : Int) = size ∧ (kind = .cas → H s.data = hash))) := by
  obtain ⟨h0, h1, h2, he | ⟨_, content, ondisk, _, _, hw, _⟩⟩ := put_ok_cases hok
  · exact ⟨h0, h1, h2, .inl he⟩
  · refine ⟨h0, h1, h2, .inr ?_⟩
    -- compressed CAS storage: `WriteAndClose` succeeded, which it does on exactly the declared bytes
    rcases (writeFile_cases h0 hw).2 with ⟨_, _, hr, _⟩ | ⟨_, _, h⟩
    · obtain ⟨_, hfault, hlen, hhash⟩ := (write_ok_iff C H d.cfg.chunkSize hcs s size hash).mp ⟨_, hr⟩
      exact ⟨hfault, hlen, fun _ => hhash⟩
    · exact h

theorem put_over_limit (C : Codec) (H : Bytes → String) (d : Disk) (kind : Kind) (hash : String) (size : Int)
    (s : Stream) (rnd : String) (hbig : size > d.cfg.maxBlobSize ∨ size < 0) :
    put C H d kind hash size s rnd = (d, .e400) := by
  unfold put
  rcases hbig with h | h
  · by_cases hn : size < 0
    · simp [hn]
    · simp [hn, h]
  · simp [h]

/-- C12; stated again, and described, as `BR.Props.C12.put_forwards_once` -/
theorem put_forwards_once (C : Codec) (H : Bytes → String) (d : Disk) (kind : Kind) (hash : String)
    (size : Int) (s : Stream) (rnd : String) (hp : d.cfg.hasProxy = true)
    (hok : (put C H d kind hash size s rnd).2 = .ok) (hns : ¬ (kind = .cas ∧ size = 0 ∧ hash = emptySha256)) :
    ∃ content ondisk, writeFile C H d.cfg kind hash size s = some (content, ondisk) ∧
      (put C H d kind hash size s rnd).1.proxyPuts =
        d.proxyPuts ++ [{ kind := kind, hash := hash, logicalSize := size, sizeOnDisk := ondisk, content := content }] := by
  obtain ⟨_, _, _, ⟨hk, hs0, hh, _⟩ | ⟨_, content, ondisk, _, _, hw, _, heq⟩⟩ := put_ok_cases hok
  · exact absurd ⟨hk, hs0, hh⟩ hns
  · exact ⟨content, ondisk, hw, by rw [heq]; simp only [hp, if_true]⟩

/-- `hres`: no other request holds a reservation -/
theorem put_ok_shape {C : Codec} {H : Bytes → String} {d : Disk} {kind : Kind} {hash : String} {size : Int}
    {s : Stream} {rnd : String} (h : DiskInv d) (hres : d.lru.res = 0)
    (hok : (put C H d kind hash size s rnd).2 = .ok) (hns : ¬ (kind = .cas ∧ size = 0 ∧ hash = emptySha256)) :
    ∃ content ondisk e,
      writeFile C H d.cfg kind hash size s = some (content, ondisk) ∧
      (put C H d kind hash size s rnd).1.files =
        d.files ++ [(fileLocation kind (newItem d.cfg kind size ondisk rnd).legacy hash size rnd, content)] ∧
      find? (put C H d kind hash size s rnd).1.lru (lookupKey kind hash) = some e ∧
      e.val = newItem d.cfg kind size ondisk rnd ∧ hash.length = 64 ∧ 0 ≤ size := by
  obtain ⟨h0, _, h64, ⟨hk, hs0, hh, _⟩ | ⟨l1, content, ondisk, l2, hr, hw, hc, heq⟩⟩ := put_ok_cases hok
  · exact absurd ⟨hk, hs0, hh⟩ hns
  · have hlen := (writeFile_cases h0 hw).1
    obtain ⟨e, hf, hev⟩ := (held_commit h.lru (reserveIf_ok h.lru hr) (lookupKey kind hash)
      (newItem d.cfg kind size ondisk rnd) ⟨by simp only [newItem]; omega, h0⟩ hc).2 rfl hres
    exact ⟨content, ondisk, e, hw, by rw [heq], by rw [heq]; exact hf, hev, h64, h0⟩

end BR.Disk
