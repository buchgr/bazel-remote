import BR.Lemmas.Conc
import Std.Data.String.ToNat -- `Nat.repr_inj`
/-! Directory invariant of model M5 under every schedule: the files on disk are exactly the files of
the entries the index tracks (indexed or queued for removal) plus the completed files of uploads
that have not committed yet; names are unique. -/
namespace BR.Conc
open BR.ListAux
open BR.Lru hiding step run

/-- the file / entry named `rnd` under `key` belongs to an upload whose program counter satisfies `P` -/
def Owner (s : State) (rnd key : String) (P : PutPc → Prop) : Prop :=
  ∃ (i : Nat) (p : PutT), s.puts[i]? = some p ∧ rnd = rndOf i ∧ key = p.key ∧ P p.pc

/-- `f_*` speak of the files on disk, `t_*` of the entries the index tracks (indexed, or queued for the remover).
The temp suffix alone identifies a file or an entry (`f_nodup`, `t_nodup`); what must be on disk is (`t_file`,
`temp_file`) and nothing else is (`f_cover`).  `f_owner` is derivable, and every proof builds the invariant
through `FInv.of_cover`; it stays a field because `conc_directory` (C07) states `FInv`, and that every file
belongs to an upload which has written it is part of that claim. -/
structure FInv (s : State) : Prop where
  f_owner : ∀ f ∈ s.files, Owner s f.rnd f.key (fun pc => pc = .written ∨ pc = .done true)
  f_nodup : (s.files.map File.rnd).Nodup
  t_owner : ∀ q ∈ tracked s.lru, Owner s q.2.random q.1 (fun pc => pc = .done true)
  t_nodup : ((tracked s.lru).map (fun q => q.2.random)).Nodup
  t_file : ∀ q ∈ tracked s.lru, ∃ f ∈ s.files, f.key = q.1 ∧ f.rnd = q.2.random
  temp_file : ∀ (i : Nat) (p : PutT), s.puts[i]? = some p → p.pc = .written → ∃ f ∈ s.files, f.key = p.key ∧ f.rnd = rndOf i
  f_cover : ∀ f ∈ s.files, (∃ q ∈ tracked s.lru, q.1 = f.key ∧ q.2.random = f.rnd) ∨
    Owner s f.rnd f.key (fun pc => pc = .written)

/-- what every reachable state of M5 satisfies (`reach_good`): a further invariant of M5 is a further field -/
structure Good (M H : Int) (s : State) : Prop where
  acc : CInv M H s
  dir : FInv s

variable {s : State}

theorem rndOf_inj {i j : Nat} (h : rndOf i = rndOf j) : i = j := by
  unfold rndOf at h
  exact Nat.repr_inj.mp h

theorem Owner.mono {rnd key : String} {P Q : PutPc → Prop} (h : Owner s rnd key P) (hPQ : ∀ pc, P pc → Q pc) :
    Owner s rnd key Q := by
  obtain ⟨i, p, hp, hr, hk, hP⟩ := h
  exact ⟨i, p, hp, hr, hk, hPQ _ hP⟩

theorem Owner.at {i : Nat} {p : PutT} {key : String} {P : PutPc → Prop} (h : Owner s (rndOf i) key P)
    (hp : s.puts[i]? = some p) : key = p.key ∧ P p.pc := by
  obtain ⟨i0, p0, h0, hr, hk, hP⟩ := h
  cases rndOf_inj hr
  cases hp.symm.trans h0
  exact ⟨hk, hP⟩

theorem Owner.setPut {i : Nat} {p : PutT} (hp : s.puts[i]? = some p) {pc' : PutPc} {rnd key : String}
    {P : PutPc → Prop} (h : Owner s rnd key P) (hP : rnd = rndOf i → P p.pc → P pc') {l : Lru} {fs : List File} :
    Owner (setPut { s with lru := l, files := fs } i { p with pc := pc' }) rnd key P :=
  exists_getElem?_set hp (fun ⟨hr, hk, hP0⟩ => ⟨hr, hk, hP hr hP0⟩) h

theorem not_owning {p : PutT} (hold : p.pc = .idle ∨ p.pc = .reserved) {P : PutPc → Prop}
    (hP : ∀ pc, P pc → pc = .written ∨ pc = .done true) : ¬ P p.pc := fun hp => by
  rcases hold with e | e <;> rcases hP _ hp with e' | e' <;> rw [e] at e' <;> cases e'

/-- `f_owner` follows from the other fields: what covers a file names its owner -/
theorem FInv.of_cover (f_nodup : (s.files.map File.rnd).Nodup)
    (t_owner : ∀ q ∈ tracked s.lru, Owner s q.2.random q.1 (fun pc => pc = .done true))
    (t_nodup : ((tracked s.lru).map (fun q => q.2.random)).Nodup)
    (t_file : ∀ q ∈ tracked s.lru, ∃ f ∈ s.files, f.key = q.1 ∧ f.rnd = q.2.random)
    (temp_file : ∀ (i : Nat) (p : PutT), s.puts[i]? = some p → p.pc = .written → ∃ f ∈ s.files, f.key = p.key ∧ f.rnd = rndOf i)
    (f_cover : ∀ f ∈ s.files, (∃ q ∈ tracked s.lru, q.1 = f.key ∧ q.2.random = f.rnd) ∨
      Owner s f.rnd f.key (fun pc => pc = .written)) : FInv s := by
  refine ⟨fun f hf => ?_, f_nodup, t_owner, t_nodup, t_file, temp_file, f_cover⟩
  rcases f_cover f hf with ⟨q, hq, hk, hr⟩ | ho
  · exact hk ▸ hr ▸ (t_owner q hq).mono fun _ => .inr
  · exact ho.mono fun _ => .inl

theorem FInv.tracked_rnd_ne (h : FInv s) {i : Nat} {p : PutT} (hi : s.puts[i]? = some p) (hpc : p.pc ≠ .done true)
    {q : String × Item} (hq : q ∈ tracked s.lru) : q.2.random ≠ rndOf i :=
  fun e => hpc ((e ▸ h.t_owner q hq).at hi).2

theorem FInv.file_rnd (h : FInv s) {i : Nat} {p : PutT} (hi : s.puts[i]? = some p) {f : File} (hf : f ∈ s.files)
    (e : f.rnd = rndOf i) : f.key = p.key ∧ (p.pc = .written ∨ p.pc = .done true) :=
  (e ▸ h.f_owner f hf).at hi

theorem mem_filter_name {fs : List File} {k r : String} {f : File} :
    f ∈ fs.filter (fun f => !(f.key == k && f.rnd == r)) ↔ f ∈ fs ∧ ¬ (f.key = k ∧ f.rnd = r) := by
  simp only [List.mem_filter, Bool.not_eq_true', Bool.and_eq_false_iff, beq_eq_false_iff_ne, ne_eq, Classical.not_and_iff_not_or_not]

theorem named_filter {fs : List File} {k r k' r' : String} (h : ∃ f ∈ fs, f.key = k ∧ f.rnd = r) (hne : r ≠ r') :
    ∃ f ∈ fs.filter (fun f => !(f.key == k' && f.rnd == r')), f.key = k ∧ f.rnd = r := by
  obtain ⟨f, hf, hk, hr⟩ := h
  exact ⟨f, mem_filter_name.mpr ⟨hf, fun e => hne (hr ▸ e.2)⟩, hk, hr⟩

/-- the directory invariant reads the index only through what it tracks, and the reads not at all -/
theorem FInv.of_tracked_perm (h : FInv s) {l : Lru} (hp : (tracked l).Perm (tracked s.lru)) (gs : List GetT) :
    FInv { s with lru := l, gets := gs } :=
  .of_cover h.f_nodup (fun q hq => h.t_owner q (hp.mem_iff.mp hq)) ((hp.map _).nodup_iff.mpr h.t_nodup)
    (fun q hq => h.t_file q (hp.mem_iff.mp hq)) h.temp_file
    fun f hf => (h.f_cover f hf).imp_left fun ⟨q, hq, e⟩ => ⟨q, hp.mem_iff.mpr hq, e⟩

/-- Upload `i` advances from a program point before its commit, while index and files change.  The files of
the other uploads stay (`others`); a file with its temp suffix is its own (`own`) and is there when it
has written (`mine`); the index tracks its entry in addition exactly when it has committed (`ht`, the
shape of `Moves.tracked` for `commit`). -/
theorem FInv.advance (h : FInv s) {i : Nat} {p : PutT} (hi : s.puts[i]? = some p) (hnd : p.pc ≠ .done true)
    {pc' : PutPc} {l : Lru} {fs : List File}
    (ht : (tracked l).Perm ((if pc' = .done true then [(p.key, itemOf p i)] else []) ++ tracked s.lru))
    (f_nodup : (fs.map File.rnd).Nodup)
    (others : ∀ f : File, f.rnd ≠ rndOf i → (f ∈ fs ↔ f ∈ s.files))
    (own : ∀ f ∈ fs, f.rnd = rndOf i → f.key = p.key ∧ (pc' = .written ∨ pc' = .done true))
    (mine : pc' = .written ∨ pc' = .done true → ∃ f ∈ fs, f.key = p.key ∧ f.rnd = rndOf i) :
    FInv (setPut { s with lru := l, files := fs } i { p with pc := pc' }) := by
  have hm : ∀ q, q ∈ tracked l ↔ (pc' = .done true ∧ q = (p.key, itemOf p i)) ∨ q ∈ tracked s.lru := fun q => by
    rw [ht.mem_iff, List.mem_append]
    split <;> simp [*]
  have hmine : Owner (setPut { s with lru := l, files := fs } i { p with pc := pc' }) (rndOf i) p.key (· = pc') :=
    ⟨i, { p with pc := pc' }, (getElem?_set_of hi _ i).trans (if_pos rfl), rfl, rfl, rfl⟩
  have keep : ∀ {k r : String}, r ≠ rndOf i → (∃ f ∈ s.files, f.key = k ∧ f.rnd = r) → ∃ f ∈ fs, f.key = k ∧ f.rnd = r :=
    fun hne ⟨f, hf, hk, hr⟩ => ⟨f, (others f (hr ▸ hne)).mpr hf, hk, hr⟩
  refine .of_cover f_nodup (fun q hq => ?_) ?_ (fun q hq => ?_) ?_ ?_
  · rcases (hm q).mp hq with ⟨e, rfl⟩ | hq
    · exact hmine.mono fun _ e' => e'.trans e
    · exact (h.t_owner q hq).setPut hi fun _ e => absurd e hnd
  · show ((tracked l).map (fun q => q.2.random)).Nodup
    rw [(ht.map _).nodup_iff]
    split
    · rw [List.singleton_append, List.map_cons, List.nodup_cons]
      refine ⟨fun hmem => ?_, h.t_nodup⟩
      obtain ⟨q, hq, hr⟩ := List.mem_map.mp hmem
      exact h.tracked_rnd_ne hi hnd hq hr
    · exact h.t_nodup
  · rcases (hm q).mp hq with ⟨e, rfl⟩ | hq
    · exact mine (.inr e)
    · exact keep (h.tracked_rnd_ne hi hnd hq) (h.t_file q hq)
  · intro j q hj hw
    replace hj : (s.puts.set i { p with pc := pc' })[j]? = some q := hj
    rw [getElem?_set_of hi] at hj
    split at hj
    · cases hj; subst j; exact mine (.inl hw)
    · rename_i e
      exact keep (fun e2 => e (rndOf_inj e2)) (h.temp_file j q hj hw)
  · intro f hf
    by_cases e : f.rnd = rndOf i
    · obtain ⟨hk, w | d⟩ := own f hf e
      · exact .inr (by rw [e, hk]; exact hmine.mono fun _ e' => e'.trans w)
      · exact .inl ⟨_, (hm _).mpr (.inl ⟨d, rfl⟩), hk.symm, e.symm⟩
    · exact (h.f_cover f ((others f e).mp hf)).imp (fun ⟨q, hq, e'⟩ => ⟨q, (hm q).mpr (.inr hq), e'⟩)
        fun ho => ho.setPut hi fun e' => absurd e' e

/-! `FInv.advance` for each transition of an upload: `reserveOk`/`reserveRefused`/`writeFault` (`setPut_plain`), `writeOk`,
`commitOk`, `commitRefused`; then the remover's `unlink` and `corrupt` (any map of the files that keeps their names). -/

theorem FInv.setPut_plain (h : FInv s) {i : Nat} {p : PutT} (hi : s.puts[i]? = some p) {pc' : PutPc}
    (hold : p.pc = .idle ∨ p.pc = .reserved) (hnew : pc' ≠ .written ∧ pc' ≠ .done true) {l : Lru}
    (hp : (tracked l).Perm (tracked s.lru)) : FInv (setPut { s with lru := l } i { p with pc := pc' }) :=
  h.advance hi (not_owning hold fun _ => .inr) (by rw [if_neg hnew.2]; exact hp) h.f_nodup (fun _ _ => .rfl)
    (fun f hf e => absurd (h.file_rnd hi hf e).2 (not_owning hold fun _ => id)) fun e => absurd e (by simp [hnew])

theorem FInv.putWrite (h : FInv s) {i : Nat} {p : PutT} (hi : s.puts[i]? = some p) (hpc : p.pc = .reserved) :
    FInv (setPut { s with files := s.files ++ [⟨p.key, rndOf i, p.data, false⟩] } i { p with pc := .written }) := by
  have fresh : ∀ f ∈ s.files, f.rnd ≠ rndOf i := fun f hf e =>
    not_owning (.inr hpc) (fun _ => id) (h.file_rnd hi hf e).2
  refine h.advance hi (by simp [hpc]) (by rw [if_neg (by simp)]; exact .refl _) ?_ (fun f hne => ?_) (fun f hf e => ⟨?_, .inl rfl⟩)
    fun _ => ⟨_, List.mem_append_right _ (List.mem_singleton.mpr rfl), rfl, rfl⟩
  · exact nodup_map_concat h.f_nodup fun hmem => by
      obtain ⟨f, hf, e⟩ := List.mem_map.mp hmem
      exact fresh f hf e
  · rw [List.mem_append, List.mem_singleton]
    exact or_iff_left fun e => hne (e ▸ rfl)
  · rcases List.mem_append.mp hf with hf | hf
    · exact absurd e (fresh f hf)
    · cases List.mem_singleton.mp hf; rfl

theorem FInv.commit_ok (h : FInv s) {i : Nat} {p : PutT} (hi : s.puts[i]? = some p) (hpc : p.pc = .written)
    {l : Lru} (hp : (tracked l).Perm ((p.key, itemOf p i) :: tracked s.lru)) :
    FInv (setPut { s with lru := l } i { p with pc := .done true }) :=
  h.advance hi (by simp [hpc]) (by rw [if_pos rfl]; exact hp) h.f_nodup (fun _ _ => .rfl)
    (fun f hf e => ⟨(h.file_rnd hi hf e).1, .inr rfl⟩) fun _ => h.temp_file i p hi hpc

theorem FInv.commit_fail (h : FInv s) {i : Nat} {p : PutT} (hi : s.puts[i]? = some p) (hpc : p.pc = .written)
    {l : Lru} (hp : (tracked l).Perm (tracked s.lru)) :
    FInv (setPut { s with lru := l, files := s.files.filter (fun f => !(f.key == p.key && f.rnd == rndOf i)) } i
      { p with pc := .done false }) := by
  refine h.advance hi (by simp [hpc]) (by rw [if_neg (by simp)]; exact hp) ((List.filter_sublist.map _).nodup h.f_nodup)
    (fun f hne => ?_) (fun f hf e => ?_) fun e => absurd e (by simp)
  · rw [mem_filter_name]
    exact and_iff_left fun e => hne e.2
  · -- the file with upload i's suffix has its key, so it is the one removed
    obtain ⟨hfm, hne⟩ := mem_filter_name.mp hf
    exact absurd ⟨(h.file_rnd hi hfm e).1, e⟩ hne

theorem FInv.unlink (h : FInv s) {l : Lru} {p : String × Item} (hp : (tracked s.lru).Perm (p :: tracked l)) :
    FInv { s with lru := l, files := s.files.filter (fun f => !(f.key == p.1 && f.rnd == p.2.random)) } := by
  have hm : ∀ q, q ∈ tracked s.lru ↔ (q = p ∨ q ∈ tracked l) := fun q => by rw [hp.mem_iff, List.mem_cons]
  have hnd := (hp.map (fun q => q.2.random)).nodup_iff.mp h.t_nodup
  rw [List.map_cons, List.nodup_cons] at hnd
  refine .of_cover ((List.filter_sublist.map _).nodup h.f_nodup) (fun q hq => h.t_owner q ((hm q).mpr (.inr hq))) hnd.2
    (fun q hq => named_filter (h.t_file q ((hm q).mpr (.inr hq))) fun e => hnd.1 (List.mem_map.mpr ⟨q, hq, e⟩))
    (fun i pt hpi hpc => named_filter (h.temp_file i pt hpi hpc) fun e =>
      h.tracked_rnd_ne hpi (by simp [hpc]) ((hm p).mpr (.inl rfl)) e.symm) ?_
  intro f hf
  obtain ⟨hfm, hne⟩ := mem_filter_name.mp hf
  refine (h.f_cover f hfm).imp_left fun ⟨q, hq, hk, hr⟩ => ?_
  rcases (hm q).mp hq with rfl | hq
  · exact absurd ⟨hk.symm, hr.symm⟩ hne
  · exact ⟨q, hq, hk, hr⟩

theorem FInv.mapFiles (h : FInv s) {g : File → File} (hg : ∀ f, (g f).key = f.key ∧ (g f).rnd = f.rnd) :
    FInv { s with files := s.files.map g } := by
  have named : ∀ {k r : String}, (∃ f ∈ s.files, f.key = k ∧ f.rnd = r) → ∃ f ∈ s.files.map g, f.key = k ∧ f.rnd = r :=
    fun ⟨f, hf, e⟩ => ⟨g f, List.mem_map.mpr ⟨f, hf, rfl⟩, (hg f).1 ▸ (hg f).2 ▸ e⟩
  refine .of_cover ?_ h.t_owner h.t_nodup (fun q hq => named (h.t_file q hq))
    (fun i p hpi hpc => named (h.temp_file i p hpi hpc)) ?_
  · show ((s.files.map g).map File.rnd).Nodup
    rw [List.map_map, List.map_congr_left (f := File.rnd ∘ g) (g := File.rnd) fun f _ => (hg f).2]
    exact h.f_nodup
  · intro f hf
    obtain ⟨f0, hf0, rfl⟩ := List.mem_map.mp hf
    rw [(hg f0).1, (hg f0).2]
    exact h.f_cover f0 hf0

theorem FInv.fileOf_find (h : FInv s) {k : String} {e : Elem} (hfind : find? s.lru k = some e) :
    ∃ f, fileOf s.files k e.val.random = some f := by
  obtain ⟨hm, hkey⟩ := find?_key Elem.key k hfind
  obtain ⟨f, hfm, hfk, hfr⟩ := h.t_file (e.key, e.val) (List.mem_append_left _ (List.mem_map.mpr ⟨e, hm, rfl⟩))
  have hfo := fileOf_of_mem h.f_nodup hfm
  rw [hfk, hfr] at hfo
  exact ⟨f, hkey ▸ hfo⟩

theorem FInv.files_perm (h : FInv s) (hq : ∀ p ∈ s.puts, p.pc ≠ .written) :
    (s.files.map (fun f => (f.key, f.rnd))).Perm ((tracked s.lru).map (fun q => (q.1, q.2.random))) := by
  rw [List.perm_ext_iff_of_nodup (nodup_of_map_snd _ h.f_nodup) (nodup_of_map_snd _ h.t_nodup)]
  intro a
  constructor
  · intro ha
    obtain ⟨f, hf, rfl⟩ := List.mem_map.mp ha
    rcases h.f_cover f hf with ⟨q, hqm, hk, hr⟩ | ⟨i, p, hpi, _, _, hpc⟩
    · exact List.mem_map.mpr ⟨q, hqm, by rw [hk, hr]⟩
    · exact absurd hpc (hq p (List.mem_of_getElem? hpi))
  · intro ha
    obtain ⟨q, hqm, rfl⟩ := List.mem_map.mp ha
    obtain ⟨f, hf, hk, hr⟩ := h.t_file _ hqm
    exact List.mem_map.mpr ⟨f, hf, by rw [hk, hr]⟩

theorem Good.setGet {M H : Int} (h : Good M H s) {l : Lru} (he : Moves s.lru l 0 []) (j : Nat) {g' : GetT}
    (hd : ∀ c, g'.pc = .done (some c) → Src s.puts g'.key c) : Good M H (setGet { s with lru := l } j g') :=
  ⟨h.acc.setGet he j hd, h.dir.of_tracked_perm he.tracked _⟩

theorem step_good {M H : Int} (h : Good M H s) (st : Step) : Good M H (step s st) := by
  refine step_cases (motive := Good M H) s st h fun hs => ?_
  have hc := h.acc
  have hl := hc.lru
  cases hs with
  | @reserveOk _ p _ hp hpc hr =>
    have he := (moves_reserve hl hr).2
    rw [if_pos rfl] at he
    exact ⟨hc.setPut hp he (by simp [PutT.held, PutT.size, hpc]) (by simp [PutT.wrote, hpc]) fun f hf => .inl hf,
      h.dir.setPut_plain hp (.inl hpc) (by simp) he.tracked⟩
  | @reserveRefused _ p _ _ hp hpc hr =>
    have he := (moves_reserve hl hr).2
    rw [if_neg nofun] at he
    exact ⟨hc.setPut hp he (by simp [PutT.held, hpc]) (by simp [PutT.wrote, hpc]) fun f hf => .inl hf,
      h.dir.setPut_plain hp (.inl hpc) (by simp) he.tracked⟩
  | writeFault hp hpc =>
    have he := BR.Disk.moves_release hl (hc.holding hp (.inl hpc))
    exact ⟨hc.setPut hp he (by simp [PutT.held, PutT.size, hpc]; omega) (by simp [PutT.wrote, hpc]) fun f hf => .inl hf,
      h.dir.setPut_plain hp (.inr hpc) (by simp) he.tracked⟩
  | writeOk hp hpc =>
    refine ⟨hc.setPut hp (.refl hl) (by simp [PutT.held, PutT.size, hpc]) (fun _ => rfl) fun f hf => ?_, h.dir.putWrite hp hpc⟩
    rcases List.mem_append.mp hf with hf | hf
    · exact .inl hf
    · cases List.mem_singleton.mp hf; exact .inr ⟨rfl, rfl, rfl⟩
  | @commitOk i p _ hp hpc hco =>
    have he := (BR.Disk.moves_commit hl (hc.holding hp (.inr hpc)) (itemOf_nonneg _ _) hco).2
    rw [if_pos rfl] at he
    exact ⟨hc.setPut hp he (by simp [PutT.held, PutT.size, hpc]; omega) (fun _ => rfl) fun f hf => .inl hf,
      h.dir.commit_ok hp hpc he.tracked⟩
  | @commitRefused i p _ _ hp hpc hno hco =>
    have he := (BR.Disk.moves_commit hl (hc.holding hp (.inr hpc)) (itemOf_nonneg _ _) hco).2
    rw [if_neg hno] at he
    exact ⟨hc.setPut hp he (by simp [PutT.held, PutT.size, hpc]; omega) (fun _ => rfl) fun f hf => .inl (List.mem_filter.mp hf).1,
      h.dir.commit_fail hp hpc he.tracked⟩
  | lookupHit _ _ hg | lookupMiss _ _ hg | openMiss _ _ _ hg => exact h.setGet (moves_get hl hg) _ fun c e => nomatch e
  | openFast _ _ hfo => exact h.setGet (.refl hl) _ (hc.src_open hfo _)
  | openSlow _ _ _ hg hfo => exact h.setGet (moves_get hl hg) _ (hc.src_open hfo _)
  | @openGone _ _ _ _ e2 _ _ _ hg =>
    have he := moves_get hl hg
    exact h.setGet (he.trans (moves_removeElemId he.inv e2.id)) _ fun c e => nomatch e
  | remove => exact h.setGet (moves_removeIfSame hl _) _ fun c e => nomatch e
  | unlink hd =>
    have hi := inv_drainOne hl hd
    have he := moves_of_drainOne hl hd
    exact ⟨hc.frame hi he.maxSize.symm he.hardLimit.symm (by have := he.res; omega)
      (fun f hf => hc.files f (List.mem_filter.mp hf).1) hc.reads, h.dir.unlink he.tracked⟩
  | corrupt =>
    refine ⟨hc.frame hl rfl rfl rfl (fun f hf => ?_) hc.reads, h.dir.mapFiles fun f => by split <;> exact ⟨rfl, rfl⟩⟩
    obtain ⟨f0, hf0, rfl⟩ := List.mem_map.mp hf
    split <;> exact hc.files f0 hf0

theorem finv_init (M H : Int) (puts : List (String × List Nat)) (gets : List String) : FInv (initState M H puts gets) := by
  refine .of_cover List.nodup_nil (fun q hq => nomatch hq) List.nodup_nil (fun q hq => nomatch hq) ?_ (fun f hf => nomatch hf)
  intro i p hpi hpc
  obtain ⟨q, _, rfl⟩ := List.mem_map.mp (List.mem_of_getElem? hpi)
  cases hpc

theorem run_good {M H : Int} (h : Good M H s) (sched : List Step) : Good M H (run s sched) :=
  run_induction (motive := Good M H) (fun _ st h => step_good h st) s sched h

theorem reach_good (M H : Int) (h0 : 0 ≤ M) (h1 : M < 9223372036854775808) (puts : List (String × List Nat))
    (gets : List String) (sched : List Step) : Good M H (run (initState M H puts gets) sched) :=
  run_good ⟨cinv_init M H h0 h1 puts gets, finv_init M H puts gets⟩ sched

end BR.Conc
