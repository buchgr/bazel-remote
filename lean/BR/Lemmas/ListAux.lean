/-! List facts that are about no model: sums of a mapped list, `List.set` at an index that is there,
duplicate-free lists split at a member, an invariant of a fold over the part consumed so far. -/
namespace BR.ListAux

theorem perm_map_sum {α} (f : α → Int) {l₁ l₂ : List α} (h : l₁.Perm l₂) :
    (l₁.map f).sum = (l₂.map f).sum := by
  induction h with
  | nil => rfl
  | cons x _ ih => simp [ih]
  | swap x y l => simp; omega
  | trans _ _ ih1 ih2 => exact ih1.trans ih2

theorem sum_map_nonneg {α} {f : α → Int} {l : List α} (h : ∀ x ∈ l, 0 ≤ f x) : 0 ≤ (l.map f).sum := by
  induction l with
  | nil => exact Int.le_refl 0
  | cons a as ih =>
    have := h a (by simp)
    have := ih fun x hx => h x (by simp [hx])
    simp only [List.map_cons, List.sum_cons]; omega

theorem foldl_prefix_induction {α β} {f : β → α → β} (P : List α → β → Prop) {b : β} (h0 : P [] b)
    (hstep : ∀ done b a, P done b → P (done ++ [a]) (f b a)) (xs : List α) : P xs (xs.foldl f b) := by
  suffices ∀ xs done b, P done b → P (done ++ xs) (xs.foldl f b) by simpa using this xs [] b h0
  intro xs
  induction xs with
  | nil => intro done b h; simpa using h
  | cons a xs ih => intro done b h; simpa using ih (done ++ [a]) (f b a) (hstep done b a h)

theorem getElem?_set_of {α} {l : List α} {i : Nat} {a : α} (h : l[i]? = some a) (b : α) (j : Nat) :
    (l.set i b)[j]? = if j = i then some b else l[j]? := by
  by_cases e : j = i
  · subst e; rw [List.getElem?_set_self', h, if_pos rfl]; rfl
  · rw [List.getElem?_set_ne (Ne.symm e), if_neg e]

/-- `Q j x`: what is known of the element `x` at position `j` -/
theorem exists_getElem?_set {α} {l : List α} {i : Nat} {a : α} (hi : l[i]? = some a) {b : α} {Q : Nat → α → Prop}
    (hQ : Q i a → Q i b) (h : ∃ j x, l[j]? = some x ∧ Q j x) : ∃ j x, (l.set i b)[j]? = some x ∧ Q j x := by
  obtain ⟨j, x, hj, hx⟩ := h
  by_cases e : j = i
  · subst e
    cases hi.symm.trans hj
    exact ⟨j, b, by rw [getElem?_set_of hi, if_pos rfl], hQ hx⟩
  · exact ⟨j, x, by rw [getElem?_set_of hi, if_neg e, hj], hx⟩

theorem map_set_same {α β} (f : α → β) {l : List α} {i : Nat} {a b : α} (h : l[i]? = some a) (he : f b = f a) :
    (l.set i b).map f = l.map f := by
  apply List.ext_getElem?
  intro k
  rw [List.getElem?_map, getElem?_set_of h]
  split
  · rename_i e; rw [e, List.getElem?_map, h, Option.map_some, Option.map_some, he]
  · rw [List.getElem?_map]

theorem sum_map_set {α} (f : α → Int) {l : List α} {i : Nat} {a : α} (h : l[i]? = some a) (b : α) :
    ((l.set i b).map f).sum = (l.map f).sum - f a + f b := by
  induction l generalizing i with
  | nil => cases h
  | cons x xs ih =>
    cases i with
    | zero => cases h; simp only [List.set_cons_zero, List.map_cons, List.sum_cons]; omega
    | succ k => simp only [List.set_cons_succ, List.map_cons, List.sum_cons, ih (by simpa using h)]; omega

theorem sum_map_eq_zero {α} (f : α → Int) {l : List α} (h : ∀ a ∈ l, f a = 0) : (l.map f).sum = 0 := by
  induction l with
  | nil => rfl
  | cons a as ih =>
    rw [List.map_cons, List.sum_cons, h a (List.mem_cons_self ..), ih fun b hb => h b (List.mem_cons_of_mem _ hb)]; rfl

theorem le_sum_map {α} (f : α → Int) {l : List α} (hf : ∀ x ∈ l, 0 ≤ f x) {a : α} (h : a ∈ l) : f a ≤ (l.map f).sum := by
  obtain ⟨as, bs, rfl⟩ := List.append_of_mem h
  have := sum_map_nonneg (l := as) fun x hx => hf x (by simp [hx])
  have := sum_map_nonneg (l := bs) fun x hx => hf x (by simp [hx])
  simp only [List.map_append, List.map_cons, List.sum_append, List.sum_cons]; omega

theorem drop_app_add {α} {a : List α} {n : Nat} (h : a.length = n) (r : List α) (k : Nat) :
    (a ++ r).drop (n + k) = r.drop k := h ▸ List.drop_length_add_append k

theorem flatten_drop_take {α} (frames : List (List α)) (k : Nat) :
    frames.flatten.drop (frames.take k).flatten.length = (frames.drop k).flatten := by
  have h : frames.flatten = (frames.take k).flatten ++ (frames.drop k).flatten := by
    rw [← List.flatten_append, List.take_append_drop]
  rw [h, List.drop_left' rfl]

theorem drop_cons_of_get {α} {l : List α} {k : Nat} {x : α} (h : l[k]? = some x) :
    l.drop k = x :: l.drop (k + 1) := by
  obtain ⟨hk, rfl⟩ := List.getElem?_eq_some_iff.mp h
  exact List.drop_eq_getElem_cons hk

theorem filter_sublist_filter {α} {p q : α → Bool} (h : ∀ a, p a = true → q a = true) (l : List α) :
    (l.filter p).Sublist (l.filter q) := by
  have : l.filter p = (l.filter q).filter p := by
    rw [List.filter_filter]; congr; funext a; cases hp : p a <;> simp [h a, hp]
  rw [this]; exact List.filter_sublist

theorem nodup_of_map_snd {α β γ} (f : α → β × γ) {l : List α} (h : (l.map fun a => (f a).2).Nodup) : (l.map f).Nodup := by
  have : ((l.map f).map Prod.snd).Nodup := by rwa [List.map_map]
  exact List.Pairwise.of_map Prod.snd (fun a b hne hab => hne (by rw [hab])) this

theorem nodup_map_concat {α κ} {g : α → κ} {l : List α} {e : α} (h : (l.map g).Nodup) (he : g e ∉ l.map g) :
    ((l ++ [e]).map g).Nodup := by
  rw [List.map_append]
  exact List.perm_append_comm.nodup_iff.mpr (List.nodup_cons.mpr ⟨he, h⟩)

theorem ne_of_nodup_map_middle {α κ} {g : α → κ} {as bs : List α} {e : α}
    (h : ((as ++ e :: bs).map g).Nodup) {a : α} (ha : a ∈ as ∨ a ∈ bs) : g a ≠ g e := by
  rw [List.map_append, List.map_cons, List.nodup_append, List.nodup_cons] at h
  rcases ha with ha | ha
  · exact h.2.2 _ (List.mem_map_of_mem ha) _ (List.mem_cons_self ..)
  · exact fun hae => h.2.1.1 (hae ▸ List.mem_map_of_mem ha)

/-- taking the member with key `g e` out of a duplicate-free list: how `Get`, `removeElement` and an overwrite reorder the index -/
theorem perm_cons_filter_of_mem {α κ} [BEq κ] [LawfulBEq κ] (g : α → κ) (l : List α) (e : α) (he : e ∈ l)
    (hnd : (l.map g).Nodup) : l.Perm (e :: l.filter (fun x => !(g x == g e))) := by
  obtain ⟨as, bs, rfl⟩ := List.append_of_mem he
  have hne : ∀ a, a ∈ as ∨ a ∈ bs → (!(g a == g e)) = true := fun a ha => by
    simpa using ne_of_nodup_map_middle hnd ha
  rw [List.filter_append, List.filter_cons_of_neg (by simp),
    List.filter_eq_self.mpr fun a ha => hne a (.inl ha), List.filter_eq_self.mpr fun a ha => hne a (.inr ha)]
  exact List.perm_middle

/-- dropping from a duplicate-free arrangement of `A ++ B` all that shares a key with `B` leaves `A`: what the
background remover does to the directory -/
theorem perm_filter_of_perm_append {α κ} [BEq κ] [LawfulBEq κ] (g : α → κ) {xs A B : List α}
    (hp : xs.Perm (A ++ B)) (hnd : (xs.map g).Nodup) :
    (xs.filter fun x => !(B.any fun b => g x == g b)).Perm A := by
  have hnd' := (hp.map g).nodup_iff.mp hnd
  rw [List.map_append, List.nodup_append] at hnd'
  refine (hp.filter _).trans ?_
  rw [List.filter_append, List.filter_eq_self.mpr ?_, List.filter_eq_nil_iff.mpr ?_, List.append_nil]
  · intro b hb; simpa using ⟨b, hb, rfl⟩
  · intro a ha
    simp only [Bool.not_eq_true', List.any_eq_false, beq_iff_eq]
    exact fun b hb e => hnd'.2.2 _ (List.mem_map_of_mem ha) _ (List.mem_map_of_mem hb) e

theorem find?_key {α κ} [BEq κ] [LawfulBEq κ] (g : α → κ) (k : κ) {l : List α} {e : α}
    (h : l.find? (fun x => g x == k) = some e) : e ∈ l ∧ g e = k := by
  refine ⟨List.mem_of_find?_eq_some h, ?_⟩
  have := List.find?_some h
  simpa using this

theorem mem_of_lookup {κ β} [BEq κ] [LawfulBEq κ] {l : List (κ × β)} {k : κ} {v : β}
    (h : (l.find? (fun p => p.1 == k)).map Prod.snd = some v) : (k, v) ∈ l := by
  obtain ⟨⟨k', v'⟩, hf, rfl⟩ := Option.map_eq_some_iff.mp h
  obtain ⟨hm, rfl⟩ := find?_key Prod.fst k hf
  exact hm

theorem find?_of_mem_nodup {α κ} [BEq κ] [LawfulBEq κ] (g : α → κ) {l : List α} {e : α}
    (h : e ∈ l) (hnd : (l.map g).Nodup) : l.find? (fun x => g x == g e) = some e := by
  obtain ⟨as, bs, rfl⟩ := List.append_of_mem h
  rw [List.find?_append, List.find?_eq_none.mpr fun a ha => by simpa using ne_of_nodup_map_middle hnd (.inl ha)]
  simp

theorem inj_of_nodup_map {α κ} [BEq κ] [LawfulBEq κ] (g : α → κ) {l : List α} (h : (l.map g).Nodup) {a b : α}
    (ha : a ∈ l) (hb : b ∈ l) (hg : g a = g b) : a = b :=
  Option.some.inj ((hg ▸ find?_of_mem_nodup g ha h).symm.trans (find?_of_mem_nodup g hb h))

end BR.ListAux
