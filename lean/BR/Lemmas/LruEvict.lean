import BR.Lemmas.LruArith
/-! The eviction loop shared by `Add` and `Reserve` in closed form: it removes the `evictCount` least
recently used entries, and `evictCount` is the first count at which the loop condition is false. -/
namespace BR.Lru

def qOf (xs : List Elem) : List (String × Item) := xs.map (fun e => (e.key, e.val))

@[simp] theorem sumDisk_nil : sumDisk [] = 0 := rfl
@[simp] theorem sumSize_nil : sumSize [] = 0 := rfl
@[simp] theorem sumQueue_nil : sumQueue [] = 0 := rfl
@[simp] theorem qOf_nil : qOf [] = [] := rfl
@[simp] theorem sumDisk_cons (e : Elem) (xs) : sumDisk (e :: xs) = e.rdisk + sumDisk xs := by
  simp [sumDisk]
@[simp] theorem sumSize_cons (e : Elem) (xs) : sumSize (e :: xs) = e.rsize + sumSize xs := by
  simp [sumSize]
@[simp] theorem sumQueue_cons (p : String × Item) (xs) : sumQueue (p :: xs) = p.2.sizeOnDisk + sumQueue xs := by
  simp [sumQueue]
@[simp] theorem qOf_cons (e : Elem) (xs) : qOf (e :: xs) = (e.key, e.val) :: qOf xs := rfl
@[simp] theorem sumDisk_append (a b : List Elem) : sumDisk (a ++ b) = sumDisk a + sumDisk b := by
  simp [sumDisk, List.sum_append]
@[simp] theorem sumSize_append (a b : List Elem) : sumSize (a ++ b) = sumSize a + sumSize b := by
  simp [sumSize, List.sum_append]
@[simp] theorem sumQueue_append (a b : List (String × Item)) : sumQueue (a ++ b) = sumQueue a + sumQueue b := by
  simp [sumQueue, List.sum_append]
@[simp] theorem qOf_append (a b : List Elem) : qOf (a ++ b) = qOf a ++ qOf b := by simp [qOf]
theorem sumDisk_take_drop (xs : List Elem) (k : Nat) : sumDisk (xs.take k) + sumDisk (xs.drop k) = sumDisk xs := by
  rw [← sumDisk_append, List.take_append_drop]
theorem sumSize_take_drop (xs : List Elem) (k : Nat) : sumSize (xs.take k) + sumSize (xs.drop k) = sumSize xs := by
  rw [← sumSize_append, List.take_append_drop]

/-- the state after evicting the `k` least recently used entries -/
def evictK (l : Lru) (k : Nat) : Lru :=
  { l with order := l.order.drop k
           cur := l.cur - sumDisk (l.order.take k)
           unc := l.unc - sumSize (l.order.take k)
           queue := l.queue ++ qOf (l.order.take k)
           qsize := l.qsize + sumQueue (qOf (l.order.take k)) }

/-- how many entries the loop evicts from `xs` when the accounted size is `cur` -/
def evictCount (over : Int → Bool) : List Elem → Int → Nat
  | [], _ => 0
  | e :: rest, cur => if over cur then evictCount over rest (cur - e.rdisk) + 1 else 0

theorem evictCount_le (over : Int → Bool) (xs : List Elem) (cur : Int) : evictCount over xs cur ≤ xs.length := by
  induction xs generalizing cur with
  | nil => exact Nat.le_refl 0
  | cons e rest ih =>
    simp only [evictCount, List.length_cons]
    split
    · exact Nat.succ_le_succ (ih _)
    · omega

theorem over_of_lt_evictCount {over : Int → Bool} {xs : List Elem} {cur : Int} {j : Nat}
    (h : j < evictCount over xs cur) : over (cur - sumDisk (xs.take j)) = true := by
  induction xs generalizing cur j with
  | nil => cases h
  | cons e rest ih =>
    simp only [evictCount] at h
    split at h
    · cases j with
      | zero => simpa
      | succ j => simpa [Int.sub_sub] using ih (Nat.lt_of_succ_lt_succ h)
    · cases h

/-- if the loop condition still holds after `evictCount` evictions, the list has run out -/
theorem evictCount_eq_length {over : Int → Bool} {xs : List Elem} {cur : Int}
    (h : over (cur - sumDisk (xs.take (evictCount over xs cur))) = true) : evictCount over xs cur = xs.length := by
  induction xs generalizing cur with
  | nil => rfl
  | cons e rest ih =>
    simp only [evictCount] at h ⊢
    split
    · rename_i ho
      simp only [ho, if_true, List.take_succ_cons, sumDisk_cons, ← Int.sub_sub] at h
      simp [ih h]
    · rename_i ho
      simp [ho] at h

/-- The loop of `Add` and `Reserve` by the numbers: `d` more bytes are asked for, `r` is what stays accounted
    when every entry is gone.  As `r` fits, the loop stops before the list runs out. -/
theorem evictCount_fits {over : Int → Bool} {xs : List Elem} {cur d M r : Int}
    (hover : ∀ j, over (cur - sumDisk (xs.take j)) = decide (cur - sumDisk (xs.take j) + d > M))
    (hcur : cur + d = r + sumDisk xs) (hfit : r ≤ M) :
    (∀ j, j < evictCount over xs cur → cur - sumDisk (xs.take j) + d > M) ∧
    cur - sumDisk (xs.take (evictCount over xs cur)) + d ≤ M := by
  refine ⟨fun j hj => ?_, Int.not_lt.mp fun hov => ?_⟩
  · have := over_of_lt_evictCount hj
    rw [hover] at this
    simpa using this
  · -- otherwise the list is exhausted and only `r` is left
    have hlen := evictCount_eq_length (over := over) (by rw [hover]; simpa using hov)
    rw [hlen, List.take_length] at hov
    omega

theorem evictLoop_eq (over : Int → Bool) (l : Lru) :
    evictLoop over l.order l =
      if over (evictK l (evictCount over l.order l.cur)).cur then .empty (evictK l (evictCount over l.order l.cur))
      else .done (evictK l (evictCount over l.order l.cur)) := by
  obtain ⟨ms, hl, o, c, r, u, q, qs, n⟩ := l
  induction o generalizing c u q qs with
  | nil => simp [evictLoop, evictCount, evictK]
  | cons e rest ih =>
    by_cases ho : over c
    · simp only [evictLoop, evictCount, ho, if_true, enqueue, ih]
      simp [evictK, Int.sub_sub, Int.add_assoc, List.append_assoc]
    · simp [evictLoop, evictCount, ho, evictK]

theorem addFinish_eq (M : Int) (l1 : Lru) (d u : Int) :
    addFinish M l1 d u =
      let l2 := evictK l1 (evictCount (fun cur => cur + d > M) l1.order l1.cur)
      if l2.cur + d > M then (l2, .stuck) else ({ l2 with cur := l2.cur + d, unc := l2.unc + u }, .ok) := by
  simp only [addFinish, evictLoop_eq]
  generalize evictK l1 _ = l2
  by_cases h : l2.cur + d > M <;> simp [h]

end BR.Lru
