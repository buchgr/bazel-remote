import BR.Lemmas.DiskPut
/-! Put then get at the disk level (M4): what the read that follows an acknowledged upload returns. -/
namespace BR.Disk
open BR.Lru BR.CasBlob

theorem fileOf_append_new {d d' : Disk} {path : String} {content : Bytes} (hfresh : path ∉ d.files.map Prod.fst)
    (hfiles : d'.files = d.files ++ [(path, content)]) : fileOf d' path = some content := by
  have : d.files.find? (fun p => p.1 == path) = none :=
    List.find?_eq_none.mpr fun p hp hpp => hfresh (List.mem_map.mpr ⟨p, hp, by simpa using hpp⟩)
  simp [fileOf, hfiles, List.find?_append, this]

theorem get_serves_indexed {C : Codec} {d : Disk} {kind : Kind} {hash : String} {size : Int} {off : Nat} {e : Elem}
    {hit : Hit} (h64 : hash.length = 64) (hne : kind = .cas → hash ≠ emptySha256)
    (hoff : ¬ (size > 0 ∧ (off : Int) ≥ size)) (hmm : isSizeMismatch size e.val.size = false)
    (hfind : find? d.lru (lookupKey kind hash) = some e)
    (hserve : ∀ l, (serveLocal C d l kind hash size (off : Int) false e).2 = some hit) (pg : ProxyGet) (rnd : String) :
    (get C d kind hash size (off : Int) false pg rnd).2 = .hit hit := by
  have hl : localLookup C d kind hash size (off : Int) false =
      ((serveLocal C d (Lru.get d.lru (lookupKey kind hash)).1 kind hash size (off : Int) false e).1, some hit) := by
    unfold localLookup
    rw [show Lru.get d.lru (lookupKey kind hash) = ((Lru.get d.lru (lookupKey kind hash)).1, some e) from
      Prod.ext rfl (by rw [get_snd, hfind])]
    simp only [hmm, Bool.not_false, if_true]
    exact Prod.ext rfl (hserve _)
  unfold get
  have c1 : ¬ hash.length ≠ 64 := by simp [h64]
  have c2 : ¬ (kind = .cas ∧ size ≤ 0 ∧ hash = emptySha256) := fun ⟨a, _, b⟩ => hne a b
  have c3 : ¬ (kind ≠ .cas ∧ (false : Bool) = true) := by simp
  have c4 : ¬ ((off : Int) < 0) := by omega
  simp only [c1, c2, c3, c4, hoff, if_false, hl]

section
variable {C : Codec} {H : Bytes → String} {d : Disk} {kind : Kind} {hash : String} {size : Int} {s : Stream}
  {rnd : String} {req : Int} {off : Nat}

/-- `req`: the size the read states (`size` in `get`), −1 for none.  `hserve`: what the reader makes of the file
    just written, whichever entry `e` and state `d'` hold it: the one step that depends on the storage format -/
theorem put_then_get (h : DiskInv d) (hres : d.lru.res = 0)
    (hfresh : ∀ legacy, fileLocation kind legacy hash size rnd ∉ d.files.map Prod.fst)
    (hne : kind = .cas → hash ≠ emptySha256) (hok : (put C H d kind hash size s rnd).2 = .ok)
    (hreq : req = -1 ∨ req = size) (hoff : off = 0 ∨ (off : Int) < size) {hit : Hit}
    (hserve : ∀ content ondisk (d' : Disk) (l : Lru) (e : Elem),
      writeFile C H d.cfg kind hash size s = some (content, ondisk) → 0 ≤ size →
      e.val = newItem d.cfg kind size ondisk rnd →
      fileOf d' (fileLocation kind (newItem d.cfg kind size ondisk rnd).legacy hash size rnd) = some content →
      (serveLocal C d' l kind hash req (off : Int) false e).2 = some hit)
    (pg : ProxyGet) (rnd' : String) :
    (get C (put C H d kind hash size s rnd).1 kind hash req (off : Int) false pg rnd').2 = .hit hit := by
  obtain ⟨content, ondisk, e, hw, hfiles, hfind, hev, h64, h0⟩ := put_ok_shape h hres hok (fun ⟨a, _, b⟩ => hne a b)
  refine get_serves_indexed h64 hne ?_ ?_ hfind
    (fun l => hserve content ondisk _ l e hw h0 hev (fileOf_append_new (hfresh _) hfiles)) pg rnd'
  · rcases hreq with rfl | rfl <;> omega
  · rw [hev]
    simp only [isSizeMismatch, newItem]
    rcases hreq with rfl | rfl <;> simp

/-- AC and RAW entries, and CAS blobs in uncompressed storage mode.  `hfresh`: the temp-file creator picked an
    unused name; `hne`: no non-empty blob hashes to the digest of the empty blob -/
theorem put_then_get_raw (h : DiskInv d) (hres : d.lru.res = 0)
    (hfresh : ∀ legacy, fileLocation kind legacy hash size rnd ∉ d.files.map Prod.fst)
    (hraw : ¬ (kind = .cas ∧ d.cfg.mode = .zstd)) (hne : kind = .cas → hash ≠ emptySha256)
    (hok : (put C H d kind hash size s rnd).2 = .ok)
    (hreq : req = -1 ∨ req = size) (hoff : off = 0 ∨ (off : Int) < size) (pg : ProxyGet) (rnd' : String) :
    (get C (put C H d kind hash size s rnd).1 kind hash req (off : Int) false pg rnd').2 =
      .hit { data := s.data.drop off, clean := true, size := size } := by
  refine put_then_get h hres hfresh hne hok hreq hoff ?_ pg rnd'
  intro content ondisk d' l e hw h0 hev hfile
  rcases (writeFile_cases h0 hw).2 with ⟨hk, hz, _⟩ | ⟨_, hcont, _, hlen, _⟩
  · exact absurd ⟨hk, hz⟩ hraw
  unfold serveLocal
  simp only [hev, newItem] at hfile ⊢
  simp only [hfile]
  by_cases hk : kind = .cas
  · have hm : d.cfg.mode = .identity := by
      cases hmode : d.cfg.mode with
      | zstd => exact absurd ⟨hk, hmode⟩ hraw
      | identity => rfl
    simp [hk, hm, hcont]
  · have hmm : isSizeMismatch req size = false := by
      simp only [isSizeMismatch]
      rcases hreq with rfl | rfl <;> simp
    simp [hk, hmm, hcont, hlen]

/-- CAS blobs in compressed storage mode.  `hsmall`, `hfit`: the file and its chunk table stay within
    int64 / uint32, true of anything a real disk holds -/
theorem put_then_get_zstd (hl : C.Lawful) (h : DiskInv d) (hres : d.lru.res = 0)
    (hfresh : ∀ legacy, fileLocation .cas legacy hash size rnd ∉ d.files.map Prod.fst)
    (hz : d.cfg.mode = .zstd) (hne : hash ≠ emptySha256)
    (hcs : 0 < d.cfg.chunkSize) (hcs2 : d.cfg.chunkSize < 4294967296) (hsize : size < 9223372036854775808)
    (hfit : 8 * ((wantLens size.toNat d.cfg.chunkSize).length + 1) + 21 < 4294967296)
    (hsmall : ∀ img, (writeAndClose C H d.cfg.chunkSize s size hash).images.getLast? = some img →
      (img.length : Int) < 9223372036854775808)
    (hok : (put C H d .cas hash size s rnd).2 = .ok)
    (hreq : req = -1 ∨ req = size) (hoff : (off : Int) < size) (pg : ProxyGet) (rnd' : String) :
    (get C (put C H d .cas hash size s rnd).1 .cas hash req (off : Int) false pg rnd').2 =
      .hit { data := s.data.drop off, clean := true, size := size } := by
  refine put_then_get h hres hfresh (fun _ => hne) hok hreq (.inr hoff) ?_ pg rnd'
  intro content ondisk d' l e hw h0 hev hfile
  rcases (writeFile_cases h0 hw).2 with ⟨_, _, hrn, hlast⟩ | ⟨hraw, _⟩
  case inr => exact absurd ⟨rfl, hz⟩ hraw
  have hexact := (write_ok_iff C H d.cfg.chunkSize hcs s size hash).mp ⟨_, hrn⟩
  have ⟨_, _, hlen, _⟩ := hexact
  have hread := written_readRaw C hl H hcs hcs2 hexact hsize hlast (hsmall content hlast) hfit off (by omega) req hreq
  unfold serveLocal
  simp only [hev, newItem] at hfile ⊢
  simp only [hfile]
  simp [hread, hz]

end
end BR.Disk
