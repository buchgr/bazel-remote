import BR.Lemmas.BlobHeader
import BR.Lemmas.ListAux
/-! Chunked data, offset tables and streaming decode of a sequence of frames. -/
namespace BR.CasBlob
open BR.ListAux

/-- `chunks` is the split of a non-empty blob into pieces of `cs` bytes, the last one possibly
    shorter (but never empty) -/
inductive Chunked (cs : Nat) : List Bytes → Prop
  | last (c : Bytes) : 0 < c.length → c.length ≤ cs → Chunked cs [c]
  | cons (c : Bytes) (rest : List Bytes) : c.length = cs → Chunked cs rest → Chunked cs (c :: rest)

theorem Chunked.ne_nil {cs : Nat} {l : List Bytes} (h : Chunked cs l) : l ≠ [] := by
  cases h <;> simp

theorem Chunked.cs_pos {cs : Nat} {l : List Bytes} (h : Chunked cs l) : 0 < cs := by
  induction h with
  | last c h1 h2 => omega
  | cons c rest _ _ ih => exact ih

theorem Chunked.length_bounds {cs : Nat} {l : List Bytes} (h : Chunked cs l) :
    (l.length - 1) * cs < l.flatten.length ∧ l.flatten.length ≤ l.length * cs := by
  induction h with
  | last c h1 h2 => simp; omega
  | cons c rest hc hr ih =>
    obtain ⟨m, hm⟩ : ∃ m, rest.length = m + 1 :=
      ⟨rest.length - 1, by have := List.length_pos_iff.mpr hr.ne_nil; omega⟩
    simp only [List.length_cons, List.flatten_cons, List.length_append, hc, hm, Nat.add_sub_cancel, Nat.add_mul,
      Nat.one_mul] at ih ⊢
    omega

theorem numChunksFor_chunked {cs : Nat} {l : List Bytes} (h : Chunked cs l) :
    numChunksFor (l.flatten.length : Int) cs = (l.length : Int) := by
  obtain ⟨h1, h2⟩ := h.length_bounds
  have hcs := h.cs_pos
  obtain ⟨m, hm⟩ : ∃ m, l.length = m + 1 := ⟨l.length - 1, by have := List.length_pos_iff.mpr h.ne_nil; omega⟩
  simp only [hm, Nat.add_sub_cancel, Nat.add_mul, Nat.one_mul] at h1 h2
  rw [numChunksFor, show (l.flatten.length : Int) + cs - 1 = ((l.flatten.length + cs - 1 : Nat) : Int) by omega,
    ← Int.natCast_ediv, hm, Nat.div_eq_of_lt_le (k := m + 1)]
  · rw [Nat.add_mul, Nat.one_mul]; omega
  · rw [Nat.add_mul, Nat.add_mul, Nat.one_mul]; omega

/-- the offset `k * cs + r`, `r < cs`, lies in chunk `k` at `r` -/
theorem chunk_split {cs : Nat} {chunks : List Bytes} (h : Chunked cs chunks) :
    ∀ (k r : Nat), r < cs → k * cs + r < chunks.flatten.length →
      ∃ c, chunks[k]? = some c ∧ r < c.length ∧
        chunks.flatten.drop (k * cs + r) = c.drop r ++ (chunks.drop (k + 1)).flatten := by
  induction h with
  | last c h1 h2 =>
    intro k r hr hlt
    simp only [List.flatten_cons, List.flatten_nil, List.append_nil] at hlt
    obtain rfl : k = 0 := by
      cases k with
      | zero => rfl
      | succ k => rw [Nat.add_mul, Nat.one_mul] at hlt; omega
    exact ⟨c, rfl, by omega, by simp⟩
  | cons c rest hc hr ih =>
    intro k r hrr hlt
    cases k with
    | zero =>
      refine ⟨c, rfl, by omega, ?_⟩
      simp only [Nat.zero_mul, Nat.zero_add, List.flatten_cons, List.drop_succ_cons, List.drop_zero]
      rw [List.drop_append_of_le_length (by omega)]
    | succ k =>
      have e : (k + 1) * cs + r = cs + (k * cs + r) := by rw [Nat.add_mul]; omega
      simp only [List.flatten_cons, List.length_append, hc] at hlt
      obtain ⟨c', h1, h2, h3⟩ := ih k r hrr (by omega)
      refine ⟨c', by simpa using h1, h2, ?_⟩
      rw [e, List.flatten_cons, drop_app_add hc, h3]
      simp

theorem offsetsFrom_length (base : Int) (lens : List Nat) : (offsetsFrom base lens).length = lens.length + 1 := by
  induction lens generalizing base with
  | nil => rfl
  | cons l ls ih => simp [offsetsFrom, ih]

theorem offsetsFrom_getElem : ∀ (lens : List Nat) (base : Int) (k : Nat) (h : k < (offsetsFrom base lens).length),
    (offsetsFrom base lens)[k] = base + ((lens.take k).sum : Nat)
  | [], base, 0, _ => by simp [offsetsFrom]
  | l :: ls, base, 0, _ => by simp [offsetsFrom]
  | l :: ls, base, k + 1, h => by
    simp only [offsetsFrom, List.getElem_cons_succ, List.take_succ_cons, List.sum_cons]
    rw [offsetsFrom_getElem ls (base + l) k]
    omega

theorem offsetsFrom_increasing : ∀ (lens : List Nat) (base p : Int), p < base → (∀ l ∈ lens, 0 < l) →
    increasingFrom p (offsetsFrom base lens) = true := by
  intro lens
  induction lens with
  | nil => intro base p hp _; simp [offsetsFrom, increasingFrom]; omega
  | cons l ls ih =>
    intro base p hp hl
    exact (increasingFrom_cons ..).mpr
      ⟨hp, ih (base + l) base (by have := hl l (by simp); omega) (fun x hx => hl x (by simp [hx]))⟩

theorem offsetsFrom_last : ∀ (lens : List Nat) (base d : Int),
    lastOr d (offsetsFrom base lens) = base + (lens.sum : Nat)
  | [], base, d => by simp [offsetsFrom, lastOr]
  | [l], base, d => by simp [offsetsFrom, lastOr]
  | l :: l' :: ls, base, d => by
    have := offsetsFrom_last (l' :: ls) (base + l) d
    simp only [offsetsFrom, lastOr, List.sum_cons] at this ⊢
    omega

theorem offsetsFrom_range : ∀ (lens : List Nat) (base : Int), ∀ o ∈ offsetsFrom base lens,
    base ≤ o ∧ o ≤ base + (lens.sum : Nat) := by
  intro lens
  induction lens with
  | nil => intro base o ho; simp [offsetsFrom] at ho; simp [ho]
  | cons l ls ih =>
    intro base o ho
    simp only [offsetsFrom, List.mem_cons] at ho
    simp only [List.sum_cons]
    rcases ho with rfl | ho
    · omega
    · have := ih (base + l) o ho; omega

end BR.CasBlob
