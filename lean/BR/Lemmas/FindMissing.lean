import BR.Model.FindMissing
import BR.Lemmas.ListAux
/-! M7.  While the index changes between batches the answer of the batch loop is no filter of the
request, but it lies between two: every digest missing throughout the call is in it
(`filter_sublist_go`), and only digests missing at some moment are (`go_sublist_filter`).  With an
index that stands still the two bounds meet (C10 `chunked_eq_filter`). -/
namespace BR.FindMissing
open BR.ListAux

variable {batch : Nat} {idxAt : Nat → Index} {proxy : Proxy} {maxProxy : Int}

/-- `hi`: any test passed by every digest that is missing at some moment of the call -/
theorem go_sublist_filter (hi : Digest → Bool)
    (h : ∀ j d, stillMissing (idxAt j) proxy maxProxy d = true → hi d = true) (fuel i : Nat) (ds : List Digest) :
    (go batch idxAt proxy maxProxy fuel i ds).Sublist (ds.filter hi) := by
  fun_induction go batch idxAt proxy maxProxy fuel i ds with
  | case1 | case2 => exact List.nil_sublist _
  | case3 fuel i ds _ ih =>
    rw [← List.take_append_drop batch ds, List.filter_append, List.take_append_drop]
    exact (filter_sublist_filter (h i) _).append ih

/-- `lo`: any test passed only by digests that are missing throughout the call -/
theorem filter_sublist_go (hb : 0 < batch) (lo : Digest → Bool)
    (h : ∀ j d, lo d = true → stillMissing (idxAt j) proxy maxProxy d = true) (fuel i : Nat) (ds : List Digest)
    (hf : ds.length ≤ fuel) :
    (ds.filter lo).Sublist (go batch idxAt proxy maxProxy fuel i ds) := by
  fun_induction go batch idxAt proxy maxProxy fuel i ds with
  | case1 i ds => rw [List.length_eq_zero_iff.mp (Nat.le_zero.mp hf)]; exact List.nil_sublist _
  | case2 => exact List.nil_sublist _
  | case3 fuel i ds hne ih =>
    -- a non-empty batch is consumed, so the fuel (the request length) suffices
    have hlen : (ds.drop batch).length ≤ fuel := by
      have : 0 < ds.length := List.length_pos_iff.mpr (by simpa using hne)
      rw [List.length_drop]; omega
    rw [← List.take_append_drop batch ds, List.filter_append, List.take_append_drop]
    exact (filter_sublist_filter (h i) _).append (ih hlen)

/-- the workers of one batch clear the slots of the digests they found, through pointers into one slice, in any order -/
theorem applyWrites_get {α} (order : List Nat) (slots : List (Option α)) (i : Nat) :
    (applyWrites order slots)[i]? = if i ∈ order then slots[i]?.map (fun _ => none) else slots[i]? := by
  unfold applyWrites
  induction order generalizing slots with
  | nil => simp
  | cons o os ih =>
    rw [List.foldl_cons, ih, List.getElem?_set]
    by_cases hio : o = i
    · subst hio; by_cases hlt : o < slots.length <;> simp [hlt]
    · simp [hio, Ne.symm hio]

end BR.FindMissing
