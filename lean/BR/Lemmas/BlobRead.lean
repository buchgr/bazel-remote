import BR.Lemmas.BlobChunks
/-! Conformant files: they parse, and at every offset `readRaw` returns `(dataOf pairs).drop off` and `readZstd` a stream
that decodes to it. -/
namespace BR.CasBlob
open BR.ListAux

/- A stored blob is described by `pairs`: its chunks in order, each with the frame that holds it compressed,
   as (frame, chunk).  `framesOf` is what follows the header in the file, `dataOf` the blob itself. -/
def framesOf (pairs : List (Bytes × Bytes)) : List Bytes := pairs.map Prod.fst
def chunksOf (pairs : List (Bytes × Bytes)) : List Bytes := pairs.map Prod.snd
def dataOf (pairs : List (Bytes × Bytes)) : Bytes := (chunksOf pairs).flatten

/-- the header the published format prescribes for these chunks: the logical size, and a table with the file
    position of every frame and, last, the file size (29 bytes of fixed fields and 8 per entry come first) -/
def hdrOf (cs : Nat) (pairs : List (Bytes × Bytes)) : Header :=
  { uncompressedSize := ((dataOf pairs).length : Int), compression := 1, chunkSize := cs,
    chunkOffsets := offsetsFrom (29 + 8 * ((pairs.length : Int) + 1)) ((framesOf pairs).map List.length) }

/-- `file` is a v2 CAS blob in the published format: header (a skippable frame) whose table
    describes independently compressed chunks of `cs` bytes; `pairs` lists (frame, chunk). -/
structure Conformant (C : Codec) (cs : Nat) (pairs : List (Bytes × Bytes)) (file : Bytes) : Prop where
  frames_ok : ∀ p ∈ pairs, C.IsFrame p.1 p.2
  chunked : Chunked cs (chunksOf pairs)
  cs_lt : cs < 4294967296  -- the header field `chunkSize` is a uint32
  file_eq : file = encodeHeader (hdrOf cs pairs) ++ (framesOf pairs).flatten
  file_small : (file.length : Int) < 9223372036854775808  -- the table entries, the last being the file size, are int64
  data_small : ((dataOf pairs).length : Int) < 9223372036854775808  -- `uncompressedSize` is an int64
  nfit : 8 * (pairs.length + 1) + 21 < 4294967296  -- `frameSize()`, 8 bytes per table entry and 21, is a uint32

@[simp] theorem hdrOf_offsets_length (cs : Nat) (pairs : List (Bytes × Bytes)) :
    (hdrOf cs pairs).chunkOffsets.length = pairs.length + 1 := by
  simp [hdrOf, offsetsFrom_length, framesOf]

theorem dataOf_cons (p : Bytes × Bytes) (ps : List (Bytes × Bytes)) : dataOf (p :: ps) = p.2 ++ dataOf ps := rfl

/-- file position of the `k`-th frame (of the end of the file for `k = pairs.length`): what entry `k`
    of the table of `hdrOf` says -/
def framePos (pairs : List (Bytes × Bytes)) (k : Nat) : Nat :=
  29 + 8 * (pairs.length + 1) + ((framesOf pairs).take k).flatten.length

theorem hdrOf_offset (cs : Nat) (pairs : List (Bytes × Bytes)) (k : Nat) (hk : k < pairs.length + 1) :
    (hdrOf cs pairs).chunkOffsets[k]'(by simpa using hk) = (framePos pairs k : Int) := by
  simp only [hdrOf, framePos]
  rw [offsetsFrom_getElem, ← List.map_take, ← List.length_flatten]
  omega

theorem framePos_succ {pairs : List (Bytes × Bytes)} {k : Nat} {p : Bytes × Bytes} (hp : pairs[k]? = some p) :
    framePos pairs (k + 1) = framePos pairs k + p.1.length := by
  simp [framePos, List.take_add_one, framesOf, hp]; omega

theorem conformant_parses {C : Codec} {cs : Nat} {pairs : List (Bytes × Bytes)} {file : Bytes}
    (hc : Conformant C cs pairs file) : parseHeader file = .ok (hdrOf cs pairs) := by
  have hne : pairs ≠ [] := fun h => hc.chunked.ne_nil (by rw [h]; rfl)
  have hpl : 0 < pairs.length := List.length_pos_iff.mpr hne
  have hflen : file.length = 29 + 8 * (pairs.length + 1) + (framesOf pairs).flatten.length := by
    rw [hc.file_eq, List.length_append, encodeHeader_length, hdrOf_offsets_length]
  have hsum : ((framesOf pairs).map List.length).sum = (framesOf pairs).flatten.length := List.length_flatten.symm
  have hbody : 0 < (framesOf pairs).flatten.length := by
    obtain ⟨p, hp⟩ := List.exists_mem_of_ne_nil pairs hne
    exact List.length_pos_iff.mpr fun h =>
      (hc.frames_ok p hp).1 (List.flatten_eq_nil_iff.mp h p.1 (List.mem_map_of_mem hp))
  have hfs := hc.file_small
  rw [hc.file_eq]
  apply parse_encode
  · refine { usize := ⟨by simp [hdrOf], hc.data_small⟩, comp := by simp [hdrOf], cs := hc.cs_lt,
             offs := ?_, n2 := by rw [hdrOf_offsets_length]; omega,
             nfit := by rw [hdrOf_offsets_length]; exact hc.nfit }
    intro o ho
    have := offsetsFrom_range _ _ o ho
    rw [hsum] at this
    omega
  · rw [← hc.file_eq]; omega
  · refine offsetsFrom_increasing _ _ _ (by omega) fun l hl => ?_
    simp only [framesOf, List.map_map, List.mem_map, Function.comp] at hl
    obtain ⟨p, hp, rfl⟩ := hl
    exact List.length_pos_iff.mpr (hc.frames_ok p hp).1
  · rw [← hc.file_eq]
    simp only [hdrOf]
    rw [offsetsFrom_last, hsum, hflen]
    omega
  · intro _
    have hb := hc.chunked.length_bounds
    have := hc.chunked.cs_pos
    refine ⟨by simp only [hdrOf]; omega, by simp only [hdrOf, dataOf]; omega, ?_⟩
    rw [hdrOf_offsets_length]
    simp only [hdrOf, dataOf]
    rw [numChunksFor_chunked hc.chunked]
    simp [chunksOf]

theorem decStream_frames {C : Codec} (hl : C.Lawful) :
    ∀ (pairs : List (Bytes × Bytes)), (∀ p ∈ pairs, C.IsFrame p.1 p.2) →
      C.decStream (framesOf pairs).flatten = (dataOf pairs, true) := by
  intro pairs
  induction pairs with
  | nil => intro _; simpa [framesOf, dataOf, chunksOf] using hl.stream_nil
  | cons p ps ih =>
    intro h
    have hp := h p (by simp)
    have := ih (fun q hq => h q (by simp [hq]))
    simp only [framesOf, dataOf, chunksOf, List.map_cons, List.flatten_cons] at this ⊢
    rw [hp.2.2, this]

theorem file_drop_frames {C : Codec} {cs : Nat} {pairs : List (Bytes × Bytes)} {file : Bytes}
    (hc : Conformant C cs pairs file) (k : Nat) :
    file.drop (framePos pairs k) = (framesOf (pairs.drop k)).flatten := by
  rw [hc.file_eq, framePos, drop_app_add (by rw [encodeHeader_length, hdrOf_offsets_length]), flatten_drop_take]
  simp [framesOf, List.map_drop]

theorem decStream_drop {C : Codec} (hl : C.Lawful) {cs : Nat} {pairs : List (Bytes × Bytes)} {file : Bytes}
    (hc : Conformant C cs pairs file) (k : Nat) :
    C.decStream (file.drop (framePos pairs k)) = (dataOf (pairs.drop k), true) := by
  rw [file_drop_frames hc]
  exact decStream_frames hl (pairs.drop k) (fun p hp => hc.frames_ok p (List.mem_of_mem_drop hp))

/-- an offset inside the blob lies in chunk `off / cs`, whose pair is `p`: the blob from there on is the rest of
    that chunk and the later chunks -/
theorem dataOf_drop {cs : Nat} {pairs : List (Bytes × Bytes)} (hch : Chunked cs (chunksOf pairs)) {off : Nat}
    (hoff : off < (dataOf pairs).length) :
    ∃ p, pairs[off / cs]? = some p ∧ off % cs < p.2.length ∧
      (dataOf pairs).drop off = p.2.drop (off % cs) ++ dataOf (pairs.drop (off / cs + 1)) := by
  have hdm : (off / cs) * cs + off % cs = off := by rw [Nat.mul_comm]; exact Nat.div_add_mod off cs
  obtain ⟨c, h1, h2, h3⟩ := chunk_split hch (off / cs) (off % cs) (Nat.mod_lt _ hch.cs_pos) (by rw [hdm]; exact hoff)
  rw [hdm] at h3
  simp only [chunksOf, List.getElem?_map, Option.map_eq_some_iff] at h1
  obtain ⟨p, hp, rfl⟩ := h1
  exact ⟨p, hp, h2, h3.trans (by simp [dataOf, chunksOf, List.map_drop])⟩

/-- `locate` on the prescribed header: chunk number, remainder, and the table entry, which is the frame's position -/
theorem locate_hdrOf {cs : Nat} (hcs : 0 < cs) {pairs : List (Bytes × Bytes)} {off : Nat} (hk : off / cs < pairs.length) :
    locate (hdrOf cs pairs) (off : Int) = .ok (off / cs, off % cs, framePos pairs (off / cs)) := by
  rw [locate_eq (show (hdrOf cs pairs).chunkSize ≠ 0 by simp only [hdrOf]; omega)]
  have e1 : ((off : Int) / ((hdrOf cs pairs).chunkSize : Int)).toNat = off / cs := by
    simp only [hdrOf]; rw [← Int.natCast_ediv, Int.toNat_natCast]
  have e2 : ((off : Int) % ((hdrOf cs pairs).chunkSize : Int)).toNat = off % cs := by
    simp only [hdrOf]; rw [← Int.natCast_emod, Int.toNat_natCast]
  simp only [e1, e2, hdrOf_offsets_length, show ¬ (off / cs + 1 ≥ pairs.length + 1) by omega, dite_false]
  congr 3
  split
  · rw [hdrOf_offset cs pairs _ (by omega), Int.toNat_natCast]
  · rw [show off / cs = 0 by omega]; simp [Header.size, framePos]; omega

/-- `firstChunk` at a frame of a conformant file: the frame's length is the difference of two table entries, and it
    decodes to the chunk -/
theorem firstChunk_hdrOf {C : Codec} {cs : Nat} {pairs : List (Bytes × Bytes)} {file : Bytes}
    (hc : Conformant C cs pairs file) {k : Nat} {p : Bytes × Bytes} (hp : pairs[k]? = some p) {r : Nat}
    (hr : r ≤ p.2.length) :
    firstChunk C file (hdrOf cs pairs) k r (framePos pairs k) = .ok (p.2.drop r, p.1.length) := by
  have hk : k < pairs.length := (List.getElem?_eq_some_iff.mp hp).1
  have e0 := hdrOf_offset cs pairs k (by omega)
  have e1 := hdrOf_offset cs pairs (k + 1) (by omega)
  rw [framePos_succ hp] at e1
  rw [firstChunk_eq C file (by simp; omega) (by rw [e0, e1]; omega)]
  simp only [e0, e1]
  rw [show ((framePos pairs k + p.1.length : Nat) : Int) - (framePos pairs k : Int) = (p.1.length : Int) by omega,
    Int.toNat_natCast, file_drop_frames hc, drop_cons_of_get hp]
  simp only [framesOf, List.map_cons, List.flatten_cons, List.take_left, Nat.lt_irrefl, if_false,
    (hc.frames_ok p (List.mem_of_getElem? hp)).2.1, show ¬ (r > p.2.length) by omega]

theorem hdrOf_size_ok (cs : Nat) (pairs : List (Bytes × Bytes)) {expectedSize : Int}
    (hexp : expectedSize = -1 ∨ expectedSize = ((dataOf pairs).length : Int)) :
    ¬ (expectedSize ≠ -1 ∧ (hdrOf cs pairs).uncompressedSize ≠ expectedSize) := by
  rcases hexp with h | h <;> simp [h, hdrOf]

theorem readRaw_conformant {C : Codec} (hl : C.Lawful) {cs : Nat} {pairs : List (Bytes × Bytes)} {file : Bytes}
    (hc : Conformant C cs pairs file) (off : Nat) (hoff : off < (dataOf pairs).length)
    (expectedSize : Int) (hexp : expectedSize = -1 ∨ expectedSize = ((dataOf pairs).length : Int)) :
    readRaw C file expectedSize (off : Int) = .ok ((dataOf pairs).drop off, true) := by
  obtain ⟨p, hp, hr, hdata⟩ := dataOf_drop hc.chunked hoff
  rw [readRaw_eq, conformant_parses hc]
  simp only [Res.bind_ok, hdrOf_size_ok cs pairs hexp, if_false, show (hdrOf cs pairs).compression = 1 from rfl,
    Nat.one_ne_zero, ne_eq, not_true_eq_false, seekChunk, locate_hdrOf hc.chunked.cs_pos (List.getElem?_eq_some_iff.mp hp).1,
    firstChunk_hdrOf hc hp (Nat.le_of_lt hr), hdata, hdrOf_offsets_length, Res.pure_eq]
  split
  -- on a chunk boundary: the frames from this one on are streamed
  · rename_i h0
    rw [decStream_drop hl hc, drop_cons_of_get hp, h0, dataOf_cons, List.drop_zero]
  · split
    -- inside the last chunk: its rest is all there is
    · rename_i hlast
      rw [show pairs.drop (off / cs + 1) = [] from List.drop_eq_nil_of_le (by omega)]
      exact congrArg (fun x => Res.ok (x, true)) (List.append_nil _).symm
    -- inside an earlier chunk: its rest, then the frames after it are streamed
    · rw [← framePos_succ hp, decStream_drop hl hc]

theorem readZstd_conformant {C : Codec} (hl : C.Lawful) {cs : Nat} {pairs : List (Bytes × Bytes)} {file : Bytes}
    (hc : Conformant C cs pairs file) (off : Nat) (hoff : off < (dataOf pairs).length)
    (expectedSize : Int) (hexp : expectedSize = -1 ∨ expectedSize = ((dataOf pairs).length : Int))
    (hskip : off = 0 → ∀ r, C.decStream (encodeHeader (hdrOf cs pairs) ++ r) = C.decStream r) :
    ∃ z, readZstd C file expectedSize (off : Int) = .ok z ∧ C.decStream z = ((dataOf pairs).drop off, true) := by
  by_cases h0 : off = 0
  -- offset 0: the whole file is handed out, header included, which the decoder passes over (`hskip`)
  · subst h0
    refine ⟨file, ?_, by rw [hc.file_eq, hskip rfl]; exact decStream_frames hl pairs hc.frames_ok⟩
    rw [readZstd_eq, conformant_parses hc]
    simp only [Res.bind_ok, hdrOf_size_ok cs pairs hexp, if_false, show (hdrOf cs pairs).compression = 1 from rfl,
      Nat.one_ne_zero, ne_eq, not_true_eq_false, Int.natCast_zero, if_true, Res.pure_eq]
  -- elsewhere what is handed out decodes to the raw read (`readZstd_decode`)
  · have hr := readRaw_conformant hl hc off hoff expectedSize hexp
    rw [← readZstd_decode hl file expectedSize (by omega)] at hr
    exact Res.map_eq_ok.mp hr

end BR.CasBlob
