import BR.Model.CasBlob
/-! Little-endian encode/decode round trips, and reading back an int64 table. -/
namespace BR.CasBlob

@[simp] theorem leN_length (n v : Nat) : (leN n v).length = n := by
  induction n generalizing v with
  | zero => rfl
  | succ n ih => simp [leN, ih]

theorem leN_lt (n v : Nat) : ∀ b ∈ leN n v, b < 256 := by
  induction n generalizing v with
  | zero => intro b h; cases h
  | succ n ih =>
    intro b h
    simp only [leN, List.mem_cons] at h
    rcases h with h | h
    · subst h; exact Nat.mod_lt _ (by decide)
    · exact ih _ b h

theorem fromLE_leN (n v : Nat) : fromLE (leN n v) = v % 256 ^ n := by
  induction n generalizing v with
  | zero => simp [leN, fromLE, Nat.mod_one]
  | succ n ih =>
    simp only [leN, fromLE, ih]
    rw [Nat.pow_succ, Nat.mul_comm (256 ^ n) 256, Nat.mod_mul]

theorem fromLE_lt (b : Bytes) (h : ∀ x ∈ b, x < 256) : fromLE b < 256 ^ b.length := by
  induction b with
  | nil => simp [fromLE]
  | cons x xs ih =>
    have hx := h x (by simp)
    have := ih (fun y hy => h y (by simp [hy]))
    simp only [fromLE, List.length_cons, Nat.pow_succ]
    omega

theorem leN_fromLE (b : Bytes) (h : ∀ x ∈ b, x < 256) : leN b.length (fromLE b) = b := by
  induction b with
  | nil => rfl
  | cons x xs ih =>
    have hx := h x (by simp)
    simp only [List.length_cons, leN, fromLE]
    rw [show (x + 256 * fromLE xs) % 256 = x by omega, show (x + 256 * fromLE xs) / 256 = fromLE xs by omega,
      ih (fun y hy => h y (by simp [hy]))]

theorem fromLE_inj : ∀ (a b : Bytes), a.length = b.length → (∀ x ∈ a, x < 256) → (∀ x ∈ b, x < 256) →
    fromLE a = fromLE b → a = b := by
  intro a b hl ha hb he
  rw [← leN_fromLE a ha, ← leN_fromLE b hb, hl, he]

@[simp] theorem le32_length (v : Nat) : (le32 v).length = 4 := leN_length 4 v
@[simp] theorem le64i_length (v : Int) : (le64i v).length = 8 := leN_length 8 _

theorem fromLE_le32 (v : Nat) (h : v < 4294967296) : fromLE (le32 v) = v := by
  unfold le32; rw [fromLE_leN]; exact Nat.mod_eq_of_lt h

theorem toI64_le64i (v : Int) (h : -9223372036854775808 ≤ v ∧ v < 9223372036854775808) :
    toI64 (fromLE (le64i v)) = v := by
  unfold le64i toI64 two63 two64
  rw [fromLE_leN, Nat.mod_eq_of_lt (by omega)]
  split <;> omega

theorem i64At_field {pre : Bytes} {off : Nat} (hp : pre.length = off) {v : Int}
    (hv : -9223372036854775808 ≤ v ∧ v < 9223372036854775808) (rest : Bytes) :
    i64At (pre ++ (le64i v ++ rest)) off = v := by
  rw [i64At, List.drop_left' hp, List.take_left' (le64i_length v), toI64_le64i v hv]

@[simp] theorem length_flatMap_le64i (l : List Int) : (l.flatMap le64i).length = 8 * l.length := by
  induction l with
  | nil => rfl
  | cons o os ih => simp [List.flatMap_cons, ih]; omega

theorem readTable (offs : List Int) (hr : ∀ o ∈ offs, -9223372036854775808 ≤ o ∧ o < 9223372036854775808) :
    ∀ (pre rest : Bytes),
      (List.range offs.length).map (fun i => i64At (pre ++ (offs.flatMap le64i ++ rest)) (pre.length + 8 * i)) = offs := by
  induction offs with
  | nil => intro pre rest; rfl
  | cons o os ih =>
    intro pre rest
    rw [List.length_cons, List.range_succ_eq_map, List.map_cons, List.map_map]
    simp only [List.flatMap_cons, List.append_assoc]
    congr 1
    · exact i64At_field rfl (hr o (by simp)) _
    · refine Eq.trans (List.map_congr_left fun i _ => ?_) (ih (fun x hx => hr x (by simp [hx])) (pre ++ le64i o) rest)
      simp only [Function.comp, List.append_assoc, List.length_append, le64i_length]
      congr 1
      omega

end BR.CasBlob
