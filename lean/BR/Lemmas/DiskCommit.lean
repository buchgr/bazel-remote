import BR.Model.Disk
import BR.Lemmas.LruOrder
/-! `Disk.release` and `Disk.commit` as changes of the index alone, for a reservation of `n` bytes that is
held (`n ≤ res`; a request that stated no size, `n ≤ 0`, has reserved nothing, hence `max n 0`): what they do
to the invariant, the limits, the reserved bytes and the tracked entries, and the lookup after an
acknowledged commit. -/
namespace BR.Disk
open BR.Lru

theorem order_release (l : Lru) (n : Int) : (release l n).order = l.order := by
  unfold release
  split
  · exact (order_unreserve l n).1
  · rfl

theorem commit_zero (l : Lru) (key : String) (item : Item) :
    (commit l key 0 item).1 = (add l key item).1 ∧ ((commit l key 0 item).2 = .ok ↔ (add l key item).2 = .ok) ∧
      ((commit l key 0 item).2 = .stuck ↔ (add l key item).2 = .stuck) := by
  unfold commit
  simp only [gt_iff_lt, Int.lt_irrefl, if_false, Bool.not_true, Bool.false_eq_true]
  cases add l key item with
  | mk l2 o => cases o <;> simp

variable {l l1 : Lru} {n : Int}

theorem unreserve_held (h : Inv l) (hn : 0 < n) (hle : n ≤ l.res) :
    unreserve l n = ({ l with cur := l.cur - n, res := l.res - n }, true) := by
  rw [unreserve_eq, if_pos ⟨hn, Int.le_trans hle h.res_le_cur, hle⟩]

theorem moves_release (h : Inv l) (hle : n ≤ l.res) : Moves l (release l n) (-(max n 0)) [] := by
  unfold release
  split
  · rename_i hn
    rw [unreserve_held h hn hle]
    exact (moves_unreserve h (unreserve_held h hn hle)).cast (by simp only [if_true]; omega) rfl
  · exact (Moves.refl h).cast (by omega) rfl

/-- `commit` of a held reservation is `Add` on the index without that reservation -/
theorem commit_held (h : Inv l) (hle : n ≤ l.res) (key : String) (item : Item) :
    commit l key n item = commit (release l n) key 0 item := by
  unfold commit release
  by_cases hn : 0 < n
  · simp [hn, unreserve_held h hn hle]
  · simp [hn]

theorem moves_commit (h : Inv l) (hle : n ≤ l.res) {key : String} {item : Item}
    (hv : 0 ≤ item.sizeOnDisk ∧ 0 ≤ item.size) {l2 : Lru} {c : Code} (hc : commit l key n item = (l2, c)) :
    c ≠ .stuck ∧ Moves l l2 (-(max n 0)) (if c = .ok then [(key, item)] else []) := by
  have hu := moves_release h hle
  obtain ⟨hns, ha⟩ := moves_add hu.inv key item hv
  obtain ⟨h1, hok, hst⟩ := commit_zero (release l n) key item
  rw [commit_held h hle] at hc
  rw [hc] at h1 hok hst
  rw [← h1] at ha
  exact ⟨fun e => hns (hst.mp e), by simpa [hok] using hu.trans ha⟩

/-- `hfit` as in `add_present`: the item fits next to what the OTHER requests hold -/
theorem commit_found (h : Inv l) (hle : n ≤ l.res) (key : String) (item : Item)
    (hv : 0 ≤ item.sizeOnDisk ∧ 0 ≤ item.size) (hok : (commit l key n item).2 = .ok)
    (hfit : (l.res - max n 0) + roundUp4k item.sizeOnDisk ≤ l.maxSize) :
    ∃ e, find? (commit l key n item).1 key = some e ∧ e.val = item := by
  have hu := moves_release h hle
  obtain ⟨h1, hok0, _⟩ := commit_zero (release l n) key item
  rw [commit_held h hle] at hok ⊢
  rw [h1]
  exact add_found hu.inv key item hv (hok0.mp hok) (by rw [hu.res, hu.maxSize]; omega)

theorem commit_found_alone (h : Inv l) (hall : l.res = max n 0) (key : String) (item : Item)
    (hv : 0 ≤ item.sizeOnDisk ∧ 0 ≤ item.size) (hok : (commit l key n item).2 = .ok) :
    ∃ e, find? (commit l key n item).1 key = some e ∧ e.val = item := by
  have hle : n ≤ l.res := by omega
  refine commit_found h hle key item hv hok ?_
  -- `Add` accepted the item on the index without the reservation, so the item alone fits below `maxSize`
  have hu := moves_release h hle
  rw [commit_held h hle] at hok
  have := ((add_ok_iff hu.inv key item hv).mp ((commit_zero _ key item).2.1.mp hok)).1
  rw [hu.maxSize] at this
  omega

/-- the `if` is how `Put` and `get` reserve: nothing unless a positive size is stated -/
theorem reserveIf_err (h : Inv l) {e : Err}
    (hr : (if n > 0 then reserve l n else (l, none)) = (l1, some e)) : l1 = l := by
  split at hr
  · have := reserve_err_unchanged h n e (by rw [hr]); rw [hr] at this; exact this
  · cases hr

theorem reserveIf_ok (h : Inv l)
    (hr : (if n > 0 then reserve l n else (l, none)) = (l1, none)) : Moves l l1 (max n 0) [] := by
  split at hr
  · exact (moves_reserve h hr).2.cast (by simp only [if_true]; omega) rfl
  · cases hr; exact (Moves.refl h).cast (by omega) rfl

/-- in this and the next two lemmas `hm` says that `l1` is `l` after the request has reserved -/
theorem held_le (h : Inv l) (hm : Moves l l1 (max n 0) []) : n ≤ l1.res := by
  have := hm.res; have := h.res_nonneg; omega

theorem held_release (h : Inv l) (hm : Moves l l1 (max n 0) []) :
    Moves l (release l1 n) 0 [] :=
  (hm.trans (moves_release hm.inv (held_le h hm))).cast (by omega) rfl

theorem held_commit (h : Inv l) (hm : Moves l l1 (max n 0) []) (key : String) (item : Item)
    (hv : 0 ≤ item.sizeOnDisk ∧ 0 ≤ item.size) {l2 : Lru} {c : Code} (hc : commit l1 key n item = (l2, c)) :
    Moves l l2 0 (if c = .ok then [(key, item)] else []) ∧
    (c = .ok → l.res = 0 → ∃ e, find? l2 key = some e ∧ e.val = item) := by
  have hmc := (moves_commit hm.inv (held_le h hm) hv hc).2
  have hf := fun hall => commit_found_alone hm.inv (n := n) hall key item hv
  rw [hc] at hf
  exact ⟨(hm.trans hmc).cast (by omega) (List.append_nil _), fun hok h0 => hf (by have := hm.res; omega) hok⟩

end BR.Disk
