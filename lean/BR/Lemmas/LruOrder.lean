import BR.Lemmas.LruInv
/-! Eviction order, minimality and admission facts for `Add`, `Get`, `Reserve` (C05, C17). -/
namespace BR.Lru
open BR.ListAux

theorem add_refused_unchanged (l : Lru) (k : String) (v : Item) (h : (add l k v).2 = .refused) :
    (add l k v).1 = l := by
  rw [add_eq] at h ⊢
  split at h
  · dsimp only at h; split at h <;> cases h
  · rw [if_neg ‹_›]

/-- `n`: how many entries the loop evicted -/
theorem add_ok_spec (l : Lru) (k : String) (v : Item) (hok : (add l k v).2 = .ok) :
    ∃ n, n ≤ (addOrder l k v).length ∧
      (add l k v).1.order = (addOrder l k v).drop n ∧
      (add l k v).1.queue = l.queue ++ addOldQ l k ++ qOf ((addOrder l k v).take n) ∧
      (∀ j, j < n → l.cur - sumDisk ((addOrder l k v).take j) + addDelta l k v > l.maxSize) ∧
      l.cur - sumDisk ((addOrder l k v).take n) + addDelta l k v ≤ l.maxSize := by
  rw [add_eq] at hok ⊢
  split at hok
  case isFalse => cases hok
  rename_i hfit
  dsimp only at hok ⊢
  split at hok
  · cases hok
  rename_i hov
  rw [if_pos hfit, if_neg hov]
  exact ⟨_, evictCount_le _ _ _, rfl, rfl,
    fun j hj => by simpa using over_of_lt_evictCount (over := fun cur => cur + addDelta l k v > l.maxSize) hj,
    Int.not_lt.mp hov⟩

theorem add_refused_iff (l : Lru) (k : String) (v : Item) :
    (add l k v).2 = .refused ↔
      (roundUp4k v.sizeOnDisk > l.maxSize ∨ l.res + addDelta l k v > l.maxSize) := by
  rw [add_eq]
  split
  · dsimp only; split <;> simp <;> omega
  · simp; omega

theorem add_ok_iff {l : Lru} (h : Inv l) (k : String) (v : Item) (hv : 0 ≤ v.sizeOnDisk ∧ 0 ≤ v.size) :
    (add l k v).2 = .ok ↔ roundUp4k v.sizeOnDisk ≤ l.maxSize ∧ l.res + addDelta l k v ≤ l.maxSize := by
  have h1 := (moves_add h k v hv).1
  have h2 := add_refused_iff l k v
  cases hr : (add l k v).2 <;> simp [hr] at h1 h2 ⊢ <;> omega

theorem add_oversize (l : Lru) (k : String) (v : Item) (h : roundUp4k v.sizeOnDisk > l.maxSize) :
    add l k v = (l, .refused) := by
  rw [add_eq, if_neg (by omega)]

/-- `add_ok_spec` read through the invariant: the count is described by what remains -/
theorem add_ok_rest {l : Lru} (h : Inv l) (k : String) (v : Item) (hok : (add l k v).2 = .ok) :
    ∃ n, n ≤ (addOrder l k v).length ∧ (add l k v).1.order = (addOrder l k v).drop n ∧
      (∀ j, j < n → l.res + sumDisk ((addOrder l k v).drop j) > l.maxSize) ∧
      l.res + sumDisk ((addOrder l k v).drop n) ≤ l.maxSize := by
  obtain ⟨n, hn, h1, _, h3, h4⟩ := add_ok_spec l k v hok
  have hs := (addStart_spec h.toWf k v).2.2.1
  have hc := h.cur_eq
  have key : ∀ j, l.cur - sumDisk ((addOrder l k v).take j) + addDelta l k v =
      l.res + sumDisk ((addOrder l k v).drop j) := by
    intro j; have := sumDisk_take_drop (addOrder l k v) j; omega
  exact ⟨n, hn, h1, fun j hj => key j ▸ h3 j hj, key n ▸ h4⟩

theorem reserve_err_unchanged {l : Lru} (h : Inv l) (size : Int) (e : Err) (herr : (reserve l size).2 = some e) :
    (reserve l size).1 = l := by
  rcases reserve_spec h size with ⟨_, hr, _⟩ | ⟨_, _, hr, _⟩ <;> rw [hr] at herr ⊢
  cases herr

theorem addOrder_last {l : Lru} (h : Wf l) (k : String) (v : Item) :
    ∃ front e, addOrder l k v = front ++ [e] ∧ e.key = k ∧ e.val = v := by
  unfold addOrder
  cases hf : find? l k with
  | some ee => exact ⟨_, _, rfl, (perm_of_find h hf).2.2, rfl⟩
  | none => exact ⟨_, _, rfl, rfl, rfl⟩

/-- `hfit` asks more than acceptance does: an overwrite is admitted on the *change* of size (`addDelta`), and the
    loop may then have to evict the rewritten entry itself -/
theorem add_present {l : Lru} (h : Inv l) (k : String) (v : Item)
    (hok : (add l k v).2 = .ok) (hfit : l.res + roundUp4k v.sizeOnDisk ≤ l.maxSize) :
    ∃ e, (add l k v).1.order.getLast? = some e ∧ e.key = k ∧ e.val = v := by
  obtain ⟨n, _, h1, hlo, _⟩ := add_ok_rest h k v hok
  obtain ⟨front, e, hsh, hk, hv⟩ := addOrder_last h.toWf k v
  -- the entry itself fits next to the reservations, so the loop stops before it
  have hn : n ≤ front.length := Nat.le_of_not_lt fun hc => by
    have := hlo front.length hc
    rw [hsh, List.drop_left' rfl] at this
    simp [Elem.rdisk, hv] at this
    omega
  exact ⟨e, by rw [h1, hsh, List.drop_append_of_le_length hn]; simp, hk, hv⟩

theorem add_found {l : Lru} (h : Inv l) (k : String) (v : Item) (hv : 0 ≤ v.sizeOnDisk ∧ 0 ≤ v.size)
    (hok : (add l k v).2 = .ok) (hfit : l.res + roundUp4k v.sizeOnDisk ≤ l.maxSize) :
    ∃ e, find? (add l k v).1 k = some e ∧ e.val = v := by
  obtain ⟨e, hlast, rfl, hval⟩ := add_present h k v hok hfit
  exact ⟨e, find?_of_mem_nodup Elem.key (List.mem_of_getLast? hlast) (moves_add h _ v hv).2.inv.keys_nodup, hval⟩

theorem order_unreserve (l : Lru) (n : Int) : (unreserve l n).1.order = l.order ∧ (unreserve l n).1.queue = l.queue := by
  rw [unreserve_eq]; split <;> exact ⟨rfl, rfl⟩

theorem reserve_hard_iff (l : Lru) (n : Int) :
    (reserve l n).2 = some .insufficientHard ↔
      0 < n ∧ n ≤ l.maxSize ∧ sumLargerThan n l.res l.maxSize = false ∧
        0 < l.hardLimit ∧ totalDiskSize l n > u64 l.hardLimit := by
  rw [reserve_eq]
  by_cases h0 : n = 0
  · rw [if_pos h0]; exact iff_of_false nofun (by omega)
  by_cases h1 : n < 0
  · rw [if_neg h0, if_pos h1]; exact iff_of_false nofun (by omega)
  by_cases h2 : n > l.maxSize
  · rw [if_neg h0, if_neg h1, if_pos h2]; exact iff_of_false nofun (by omega)
  by_cases h3 : sumLargerThan n l.res l.maxSize = true
  · rw [if_neg h0, if_neg h1, if_neg h2, if_pos h3]; exact iff_of_false nofun fun h => by simp [h3] at h
  by_cases h4 : 0 < l.hardLimit ∧ totalDiskSize l n > u64 l.hardLimit
  · rw [if_neg h0, if_neg h1, if_neg h2, if_neg h3, if_pos h4]
    exact iff_of_true rfl ⟨by omega, by omega, by simpa using h3, h4⟩
  · rw [if_neg h0, if_neg h1, if_neg h2, if_neg h3, if_neg h4]
    refine iff_of_false ?_ fun h => h4 h.2.2.2
    dsimp only; split <;> nofun

/-- `reserve_hard_iff` read through the invariant: no uint64 wrap, and the earlier tests pass -/
theorem Inv.reserve_hard_iff {l : Lru} (h : Inv l) (size : Int) (hpos : 0 < size)
    (hfit : size + l.res ≤ l.maxSize) (hnw : l.cur + l.qsize + size < 18446744073709551616)
    (hh : l.hardLimit < 9223372036854775808) :
    (reserve l size).2 = some .insufficientHard ↔ (0 < l.hardLimit ∧ l.cur + l.qsize + size > l.hardLimit) := by
  have hmax := h.max_lt; have hc0 := h.cur_nonneg; have hq0 := h.qsize_nonneg; have hr0 := h.res_nonneg
  have hsl : sumLargerThan size l.res l.maxSize = false := by
    rw [sumLargerThan_correct size l.res l.maxSize hpos hr0 (by omega) (by omega) hmax]
    simpa using hfit
  rw [Lru.reserve_hard_iff, totalDiskSize_eq l size hc0 hq0 (by omega) (by omega)]
  refine ⟨fun ⟨_, _, _, hon, hov⟩ => ⟨hon, by rwa [u64_eq (by omega) (by omega)] at hov⟩,
    fun ⟨hon, hov⟩ => ⟨hpos, by omega, hsl, hon, by rwa [u64_eq (by omega) (by omega)]⟩⟩

theorem no_hard_refusal_when_disabled (l : Lru) (size : Int) (hoff : l.hardLimit ≤ 0) :
    (reserve l size).2 ≠ some .insufficientHard :=
  fun h => absurd ((reserve_hard_iff l size).mp h).2.2.2.1 (by omega)

theorem get_snd (l : Lru) (k : String) : (get l k).2 = find? l k := by
  unfold get; split <;> simp [*]

theorem get_order_perm {l l' : Lru} (h : Wf l) {k : String} {o : Option Elem} (hg : get l k = (l', o)) :
    l'.order.Perm l.order := by
  unfold get at hg
  split at hg <;> cases hg
  · rename_i e hf
    exact List.perm_append_comm.trans (perm_of_find h hf).1.symm
  · exact .refl _

theorem order_drainOne {l l' : Lru} {o : Option (String × Item)} (hd : drainOne l = (l', o)) : l'.order = l.order := by
  rcases drainOne_cases l with ⟨e, _⟩ | ⟨_, _, _, e⟩ <;> cases e.symm.trans hd <;> rfl

end BR.Lru
