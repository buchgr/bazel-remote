import BR.Model.CasBlob
/-! `readHeader` succeeds exactly on `ParsesTo`; the readers as header checks followed by the shared
chunk seek `seekChunk` (so a refused header fails both, and decoding the zstd reader's output is the raw
read); totality (no panic) of the readers. -/
namespace BR.CasBlob

@[simp] theorem Res.bind_ok {α β} (a : α) (f : α → Res β) : (Res.ok a >>= f) = f a := rfl
@[simp] theorem Res.bind_err {α β} (e : Nat) (f : α → Res β) : (Res.err e >>= f) = .err e := rfl
@[simp] theorem Res.bind_panic {α β} (f : α → Res β) : (Res.panic >>= f) = .panic := rfl
@[simp] theorem Res.pure_eq {α} (a : α) : (pure a : Res α) = .ok a := rfl
@[simp] theorem Res.map_ok {α β} (g : α → β) (a : α) : g <$> Res.ok a = .ok (g a) := rfl

theorem Res.bind_eq_ok {α β} {x : Res α} {f : α → Res β} {b : β} :
    (x >>= f) = .ok b ↔ ∃ a, x = .ok a ∧ f a = .ok b := by
  cases x <;> simp

theorem Res.map_eq_ok {α β} {g : α → β} {x : Res α} {b : β} : g <$> x = .ok b ↔ ∃ a, x = .ok a ∧ g a = b := by
  cases x <;> simp [Functor.map, Res.bind]

theorem Res.bind_ne_panic {α β} {x : Res α} {f : α → Res β} (hx : x ≠ .panic)
    (hf : ∀ a, x = .ok a → f a ≠ .panic) : (x >>= f) ≠ .panic := by
  cases x with
  | ok a => exact hf a rfl
  | err e => simp
  | panic => exact absurd rfl hx

theorem Res.ite_ne_panic {α} {c : Prop} [Decidable c] {a b : Res α} (ha : c → a ≠ .panic) (hb : ¬ c → b ≠ .panic) :
    (if c then a else b) ≠ .panic := by
  split <;> simp [*]

/-- with this, `simp only` turns the chain of tests in `parseHeader` into the conjunction of their negations -/
theorem Res.ite_err_eq {α} {c : Prop} [Decidable c] {e : Nat} {x y : Res α} (hy : ∀ e, y ≠ .err e) :
    (if c then .err e else x) = y ↔ ¬ c ∧ x = y := by
  split <;> simp [*, Ne.symm (hy e)]

/-- the header `readHeader` has assembled when it has passed all its checks -/
def rawHeader (file : Bytes) : Header :=
  { uncompressedSize := i64At file 8, compression := u8At file 16, chunkSize := u32At file 17,
    chunkOffsets := readOffsets file (i64At file 21).toNat }

@[simp] theorem readOffsets_length (file : Bytes) (n : Nat) : (readOffsets file n).length = n := by
  simp [readOffsets]

theorem zstd_test_iff (comp cs : Nat) (usize n : Int) :
    (comp == 1 && (cs == 0 || decide (usize ≤ 0) || decide (numChunksFor usize cs ≠ n))) = true ↔
      ¬ (comp = 1 → cs ≠ 0 ∧ 0 < usize ∧ numChunksFor usize cs = n) := by
  simp only [Bool.and_eq_true, Bool.or_eq_true, beq_iff_eq, decide_eq_true_eq]
  omega

/-- The tests of `readHeader`, restated on the header it returns: `num` ties the count it read to the
    length of the table, so the other fields need no accessor arithmetic.  `big` … `zstd` are the tests in the
    order they are made (errors 1, 2, 3, 5, 4, 6, 7, 8 of `parseHeader`). -/
structure ParsesTo (file : Bytes) (h : Header) : Prop where
  raw : rawHeader file = h
  num : i64At file 21 = (h.chunkOffsets.length : Int)
  big : 45 < file.length
  magic : u32At file 0 = magic
  n2 : 2 ≤ h.chunkOffsets.length
  fits : 29 + 8 * h.chunkOffsets.length ≤ file.length
  frame : u32At file 4 = 8 * h.chunkOffsets.length + 21
  inc : increasingFrom (-1) h.chunkOffsets = true
  last : lastOr (-1) h.chunkOffsets = (file.length : Int)
  zstd : h.compression = 1 → h.chunkSize ≠ 0 ∧ 0 < h.uncompressedSize ∧
    numChunksFor h.uncompressedSize h.chunkSize = (h.chunkOffsets.length : Int) - 1

theorem parseHeader_ok_iff {file : Bytes} {h : Header} : parseHeader file = .ok h ↔ ParsesTo file h := by
  simp only [parseHeader, Res.ite_err_eq (y := .ok h) (fun _ => nofun), Res.ok.injEq, zstd_test_iff,
    Decidable.not_not, Bool.not_eq_true', Bool.not_eq_false]
  have hlen : ((rawHeader file).chunkOffsets.length : Int) = ((i64At file 21).toNat : Int) := by simp [rawHeader]
  constructor
  · rintro ⟨h1, h2, h3, h5, h4, h6, h7, h8, hraw⟩
    have hraw : rawHeader file = h := hraw
    subst hraw
    have hn : i64At file 21 = ((rawHeader file).chunkOffsets.length : Int) := by omega
    rw [hn] at h8
    exact ⟨rfl, hn, by omega, h2, by omega, by omega, by omega, h6, h7, h8⟩
  · intro p
    obtain rfl := p.raw
    have hn := p.num
    refine ⟨by have := p.big; omega, p.magic, by have := p.n2; omega, by have := p.fits; omega,
      by rw [p.frame, hn]; omega, p.inc, p.last, ?_, rfl⟩
    rw [hn]; exact p.zstd

theorem parseHeader_ne_panic (file : Bytes) : parseHeader file ≠ .panic := by
  simp only [ne_eq, parseHeader, Res.ite_err_eq (y := (.panic : Res Header)) (fun _ => nofun), reduceCtorEq, and_false,
    not_false_eq_true]

/-- the zstd branch the two readers share: find the chunk that holds `offset`; on a chunk boundary
    continue with the file position (`whole`), otherwise decode that chunk, cut it, and continue with
    the chunk number, the position, the cut chunk and the frame length (`cut`) -/
def seekChunk {β} (C : Codec) (file : Bytes) (h : Header) (offset : Int) (whole : Nat → Res β)
    (cut : Nat → Nat → Bytes → Nat → Res β) : Res β := do
  let (chunkNum, rem, pos) ← locate h offset
  if rem = 0 then whole pos
  else do
    let (tail, clen) ← firstChunk C file h chunkNum rem pos
    cut chunkNum pos tail clen

theorem readRaw_eq (C : Codec) (file : Bytes) (expectedSize offset : Int) :
    readRaw C file expectedSize offset = (parseHeader file >>= fun h =>
      if expectedSize ≠ -1 ∧ h.uncompressedSize ≠ expectedSize then .err 10
      else if h.compression = 0 then
        pure (file.drop (h.size.toNat + (if offset > 0 then offset.toNat else 0)), true)
      else if h.compression ≠ 1 then .err 11
      else (seekChunk C file h offset (fun pos => pure (C.decStream (file.drop pos)))
        (fun chunkNum pos tail clen =>
          if chunkNum + 2 = h.chunkOffsets.length then pure (tail, true)
          else
            let r := C.decStream (file.drop (pos + clen))
            pure (tail ++ r.1, r.2)))) := rfl

theorem readZstd_eq (C : Codec) (file : Bytes) (expectedSize offset : Int) :
    readZstd C file expectedSize offset = (parseHeader file >>= fun h =>
      if expectedSize ≠ -1 ∧ h.uncompressedSize ≠ expectedSize then .err 10
      else if h.compression = 0 then
        pure (legacyZstd C (file.drop (h.size.toNat + (if offset > 0 then offset.toNat else 0))))
      else if h.compression ≠ 1 then .err 11
      else if offset = 0 then pure file
      else (seekChunk C file h offset (fun pos => pure (file.drop pos))
        (fun chunkNum pos tail clen =>
          if chunkNum + 2 = h.chunkOffsets.length then pure (C.enc tail)
          else pure (C.enc tail ++ file.drop (pos + clen))))) := rfl

/-- both readers parse the header first: a file `readHeader` refuses yields nothing, at any size and offset -/
theorem readers_fail_without_header (C : Codec) {file : Bytes} (h : ∀ hd, parseHeader file ≠ .ok hd)
    (expectedSize offset : Int) :
    (∀ x, readRaw C file expectedSize offset ≠ .ok x) ∧ (∀ x, readZstd C file expectedSize offset ≠ .ok x) := by
  rw [readRaw_eq, readZstd_eq]
  constructor
  all_goals
    intro x hx
    obtain ⟨hd, hp, _⟩ := Res.bind_eq_ok.mp hx
    exact h hd hp

theorem seekChunk_map {β γ} (g : β → γ) (C : Codec) (file : Bytes) (h : Header) (offset : Int)
    (whole : Nat → Res β) (cut : Nat → Nat → Bytes → Nat → Res β) :
    g <$> seekChunk C file h offset whole cut =
      seekChunk C file h offset (fun p => g <$> whole p) (fun k p t c => g <$> cut k p t c) := by
  unfold seekChunk
  cases locate h offset with
  | err e => rfl
  | panic => rfl
  | ok t =>
    obtain ⟨k, r, p⟩ := t
    simp only [Res.bind_ok]
    split
    · rfl
    · cases firstChunk C file h k r p <;> rfl

theorem Codec.Lawful.decStream_enc {C : Codec} (hl : C.Lawful) (x : Bytes) : C.decStream (C.enc x) = (x, true) := by
  have := (hl.enc_frame x).2.2 []
  rwa [List.append_nil, hl.stream_nil, List.append_nil] at this

/-- Decoding what `GetZstdReadCloser` returns gives what `GetUncompressedReadCloser` returns, on every
    file.  Offset 0 is apart: there the former hands out the whole file, header included. -/
theorem readZstd_decode {C : Codec} (hl : C.Lawful) (file : Bytes) (expectedSize : Int) {offset : Int}
    (hoff : offset ≠ 0) :
    C.decStream <$> readZstd C file expectedSize offset = readRaw C file expectedSize offset := by
  rw [readRaw_eq, readZstd_eq]
  cases parseHeader file with
  | err e => rfl
  | panic => rfl
  | ok h =>
    simp only [Res.bind_ok]
    by_cases h10 : expectedSize ≠ -1 ∧ h.uncompressedSize ≠ expectedSize
    · simp only [if_pos h10]; rfl
    simp only [if_neg h10]
    by_cases h0 : h.compression = 0
    · simp only [if_pos h0, Res.pure_eq, Res.map_ok, legacyZstd, hl.decStream_enc]
    simp only [if_neg h0]
    by_cases h11 : h.compression ≠ 1
    · simp only [if_pos h11]; rfl
    simp only [if_neg h11, if_neg hoff, seekChunk_map, Res.pure_eq, Res.map_ok]
    congr 1
    funext k p t c
    split
    · rw [Res.map_ok, hl.decStream_enc]
    · rw [Res.map_ok, (hl.enc_frame t).2.2]

@[simp] theorem increasingFrom_cons (p x : Int) (xs : List Int) :
    increasingFrom p (x :: xs) = true ↔ p < x ∧ increasingFrom x xs = true := by
  simp only [increasingFrom]; split <;> simp <;> omega

theorem increasing_adjacent : ∀ (l : List Int) (p : Int), increasingFrom p l = true →
    ∀ i (h : i + 1 < l.length), l[i] < l[i + 1]
  | x :: y :: ys, p, hinc, 0, _ => ((increasingFrom_cons _ _ _).mp ((increasingFrom_cons _ _ _).mp hinc).2).1
  | x :: xs, p, hinc, i + 1, h =>
    increasing_adjacent xs x ((increasingFrom_cons _ _ _).mp hinc).2 i (by simpa using h)

theorem idx_of_lt {l : List Int} {i : Nat} (h : i < l.length) : idx l i = .ok l[i] := by
  simp [idx, List.getElem?_eq_getElem h]

theorem locate_eq {h : Header} (hcs : h.chunkSize ≠ 0) (offset : Int) :
    locate h offset =
      if hk : (offset / (h.chunkSize : Int)).toNat + 1 ≥ h.chunkOffsets.length then .err 12
      else .ok ((offset / (h.chunkSize : Int)).toNat, (offset % (h.chunkSize : Int)).toNat,
        if (offset / (h.chunkSize : Int)).toNat > 0 then (h.chunkOffsets[(offset / (h.chunkSize : Int)).toNat]).toNat
        else h.size.toNat) := by
  unfold locate
  simp only [hcs, if_false]
  split
  · rfl
  · rename_i hk
    split
    · rw [idx_of_lt (by omega)]; rfl
    · rfl

theorem firstChunk_eq (C : Codec) (file : Bytes) {h : Header} {k : Nat} (hk : k + 1 < h.chunkOffsets.length)
    (hle : h.chunkOffsets[k] ≤ h.chunkOffsets[k + 1]) (r pos : Nat) :
    firstChunk C file h k r pos =
      let clen := (h.chunkOffsets[k + 1] - h.chunkOffsets[k]).toNat
      let first := (file.drop pos).take clen
      if first.length < clen then .err 13
      else match C.decAll first with
        | none => .err 14
        | some chunk => if r > chunk.length then .err 15 else .ok (chunk.drop r, clen) := by
  unfold firstChunk
  rw [idx_of_lt (by omega), idx_of_lt hk]
  simp only [Res.bind_ok, makeLen, show ¬ (h.chunkOffsets[k + 1] - h.chunkOffsets[k] < 0) by omega, if_false]
  rfl

theorem firstChunk_ne_panic (C : Codec) (file : Bytes) {h : Header} {k : Nat} (hk : k + 1 < h.chunkOffsets.length)
    (hinc : increasingFrom (-1) h.chunkOffsets = true) (r pos : Nat) : firstChunk C file h k r pos ≠ .panic := by
  rw [firstChunk_eq C file hk (Int.le_of_lt (increasing_adjacent _ _ hinc k hk))]
  refine Res.ite_ne_panic (fun _ => nofun) (fun _ => ?_)
  split
  · nofun
  · exact Res.ite_ne_panic (fun _ => nofun) (fun _ => nofun)

theorem seekChunk_ne_panic {β} (C : Codec) (file : Bytes) {h : Header} (hcs : h.chunkSize ≠ 0)
    (hinc : increasingFrom (-1) h.chunkOffsets = true) (offset : Int) {whole : Nat → Res β}
    {cut : Nat → Nat → Bytes → Nat → Res β} (hw : ∀ p, whole p ≠ .panic) (hc : ∀ k p t c, cut k p t c ≠ .panic) :
    seekChunk C file h offset whole cut ≠ .panic := by
  unfold seekChunk
  rw [locate_eq hcs]
  split
  · nofun
  · rename_i hk
    exact Res.ite_ne_panic (fun _ => hw _) fun _ =>
      Res.bind_ne_panic (firstChunk_ne_panic C file (by omega) hinc _ _) fun _ _ => hc _ _ _ _

/-- **the readers are total**: on every byte string, every expected size and every offset the
    functions return bytes or an error — no index out of range, division by zero or negative
    `make` length is reachable.  For negative offsets this is a fact about the model only: `locate`
    rounds where Go's `/` and `%` truncate, and the Go readers do panic there; `disk.get` refuses such
    offsets before it calls them. -/
theorem readers_never_panic (C : Codec) (file : Bytes) (expectedSize offset : Int) :
    readRaw C file expectedSize offset ≠ .panic ∧ readZstd C file expectedSize offset ≠ .panic := by
  rw [readRaw_eq, readZstd_eq]
  constructor <;> refine Res.bind_ne_panic (parseHeader_ne_panic file) fun h hp => ?_
  all_goals
    have p := parseHeader_ok_iff.mp hp
    refine Res.ite_ne_panic (fun _ => nofun) fun _ => Res.ite_ne_panic (fun _ => nofun) fun _ =>
      Res.ite_ne_panic (fun _ => nofun) fun hc => ?_
    have hcs := (p.zstd (Decidable.not_not.mp hc)).1
  · exact seekChunk_ne_panic C file hcs p.inc offset (fun _ => nofun) fun _ _ _ _ =>
      Res.ite_ne_panic (fun _ => nofun) (fun _ => nofun)
  · exact Res.ite_ne_panic (fun _ => nofun) fun _ =>
      seekChunk_ne_panic C file hcs p.inc offset (fun _ => nofun) fun _ _ _ _ =>
        Res.ite_ne_panic (fun _ => nofun) (fun _ => nofun)

end BR.CasBlob
