import BR.Gen.Consts
import BR.Gen.Funcs
import BR.Lemmas.LruArith
/-!
Bridge: the definitions regenerated from cache/disk/lru.go (`BR.Gen`) equal the hand-written model
(`BR.Lru`).  These theorems stop checking when the source drifts.  Used by C03, C04, C05, C17.
-/
namespace BR.Bridge.Lru
open BR.Lru

theorem blockSize_eq : BR.Gen.disk.BlockSize = blockSize := by rfl

/-- lru.go `roundUp4k` is the bit-level function proved equal to the model's `roundUp4k` -/
theorem roundUp4k_eq (n : BitVec 64) : BR.Gen.roundUp4k n = roundUp4kBV n := by
  unfold BR.Gen.roundUp4k roundUp4kBV
  have : n + 4096#64 - 1#64 = n + 4095#64 := by bv_omega
  rw [this]

theorem wrap64_eq_bmod (x : Int) : wrap64 x = Int.bmod x (2 ^ 64) := by
  unfold wrap64
  rw [Int.bmod_def]
  split <;> omega

theorem sumLargerThan_eq (a b c : BitVec 64) :
    BR.Gen.sumLargerThan a b c = sumLargerThan a.toInt b.toInt c.toInt := by
  unfold BR.Gen.sumLargerThan sumLargerThan
  simp only [BitVec.slt, BitVec.sle, BitVec.toInt_add, wrap64_eq_bmod]
  have : (0#64 : BitVec 64).toInt = 0 := by decide
  simp only [this, gt_iff_lt, decide_eq_true_eq]

end BR.Bridge.Lru
