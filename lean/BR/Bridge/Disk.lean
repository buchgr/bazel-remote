import BR.Gen.Consts
import BR.Gen.Funcs
import BR.Gen.Tables
import BR.Model.Disk
/-!
Bridge: the guard lists, call orders, naming functions and constants of cache/disk/disk.go and
cache/cache.go as regenerated from the source are the ones model M4 follows.
Used by C01, C03, C04, C12, C15, C18.
-/
namespace BR.Bridge.Disk
open BR.Disk

theorem emptySha256_eq : BR.Gen.disk.emptySha256 = emptySha256 := by rfl
theorem emptyZstdBlob_eq : BR.Gen.disk.emptyZstdBlob = BR.Disk.emptyZstdBlob := by rfl
theorem hashLen_eq : BR.Gen.disk.sha256HashStrSize = 64 := by rfl

theorem isSizeMismatch_eq (a b : BitVec 64) :
    BR.Gen.isSizeMismatch a b = isSizeMismatch a.toInt b.toInt := by
  unfold BR.Gen.isSizeMismatch isSizeMismatch
  have h : (-1#64 : BitVec 64).toInt = -1 := by decide
  have hne : (a != b) = (a.toInt != b.toInt) := by
    rw [bne, bne, Bool.eq_iff_iff]
    simp [BitVec.toInt_inj]
  simp only [BitVec.slt, h, hne, gt_iff_lt]

theorem put_guards :
    BR.Gen.disk_Put_guards =
      ["size < 0 => badReqErr", "size > c.maxBlobSize => badReqErr",
       "len(hash) != sha256HashStrSize => badReqErr",
       "kind == cache.CAS && size == 0 && hash == emptySha256 => nil", "err != nil => internalErr",
       "tf == nil => &cache.Error{Code: http.StatusInternalServerError, Text: fmt.Sprintf",
       "err != nil => internalErr", "err != nil => internalErr"] := by rfl

/-- deferred cleanup (remove temp file, Unreserve), then Reserve → Create → write → proxy.Put → commit -/
theorem put_calls :
    BR.Gen.disk_Put_calls =
      ["os.Remove", "c.lru.Unreserve", "c.lru.Reserve", "tfc.Create", "c.writeAndCloseFile", "c.proxy.Put",
       "c.commit"] := by rfl

theorem get_guards :
    BR.Gen.disk_get_guards =
      ["len(hash) != sha256HashStrSize => nil, -1, badReqErr",
       "kind == cache.CAS && size <= 0 && hash == emptySha256 => io.NopCloser, 0, nil",
       "kind != cache.CAS && zstd => nil, -1, errOnlyCompressedCAS", "offset < 0 => nil, -1, badReqErr",
       "size > 0 && offset >= size => nil, -1, badReqErr", "err != nil => nil, -1, err",
       "f != nil => f, foundSize, nil", "!tryProxy => nil, -1, nil", "err != nil => nil, -1, internalErr",
       "err != nil => nil, -1, internalErr", "r == nil => nil, -1, nil",
       "foundSize > c.maxProxyBlobSize => nil, -1, nil",
       "isSizeMismatch(size, foundSize) || foundSize < 0 => nil, -1, nil", "err != nil => nil, -1, internalErr",
       "err != nil => nil, -1, internalErr",
       "uncompressedOnDisk && sizeOnDisk != foundSize => nil, -1, internalErr",
       "err != nil => nil, -1, internalErr", "err != nil => nil, -1, internalErr",
       "err != nil => nil, -1, internalErr"] := by rfl

theorem get_calls :
    BR.Gen.disk_get_calls =
      ["os.Remove", "c.lru.Unreserve", "c.availableOrTryProxy", "c.proxy.Get", "tfc.Create", "io.Copy",
       "casblob.GetLegacyZstdReadCloser", "casblob.GetZstdReadCloser", "casblob.GetUncompressedReadCloser",
       "c.commit"] := by rfl

/-- `commit` does Unreserve and Add inside one Lock/Unlock pair -/
theorem commit_calls :
    BR.Gen.disk_commit_calls = ["c.mu.Lock", "c.mu.Unlock", "c.lru.Unreserve", "c.lru.Add"] := by rfl

theorem writeAndCloseFile_calls :
    BR.Gen.disk_writeAndCloseFile_calls =
      ["casblob.WriteAndClose", "sha256verifier.New", "io.Copy", "isSizeMismatch", "f.Sync",
       "writeCloser.Close"] := by rfl

theorem contains_guards :
    BR.Gen.disk_Contains_guards =
      ["len(hash) != sha256HashStrSize => false, -1",
       "kind == cache.CAS && size <= 0 && hash == emptySha256 => true, 0",
       "exists && !isSizeMismatch(size, foundSize) => true, foundSize"] := by rfl

theorem names :
    BR.Gen.EntryKind_String = ["e == AC => \"ac\"", "e == CAS => \"cas\"", "=> \"raw\""] ∧
    BR.Gen.EntryKind_DirName = ["e == AC => \"ac.v2\"", "e == CAS => \"cas.v2\"", "=> \"raw.v2\""] ∧
    BR.Gen.LookupKey = ["=> kind.String() + \"/\" + hash"] ∧
    BR.Gen.diskCache_FileLocationBase =
      ["kind == cache.RAW => path.Join(\"raw.v2\", hash[:2], hash)",
       "kind == cache.AC => path.Join(\"ac.v2\", hash[:2], hash)",
       "legacy => path.Join(\"cas.v2\", hash[:2], hash)",
       "=> fmt.Sprintf(\"cas.v2/%s/%s-%d\", hash[:2], hash, size)"] ∧
    BR.Gen.diskCache_FileLocation =
      ["kind == cache.RAW => path.Join(\"raw.v2\", hash[:2], hash + \"-\" + random)",
       "kind == cache.AC => path.Join(\"ac.v2\", hash[:2], hash + \"-\" + random)",
       "legacy => fmt.Sprintf(\"cas.v2/%s/%s-%s.v1\", hash[:2], hash, random)",
       "=> fmt.Sprintf(\"cas.v2/%s/%s-%d-%s\", hash[:2], hash, size, random)"] :=
  ⟨rfl, rfl, rfl, rfl, rfl⟩

end BR.Bridge.Disk
