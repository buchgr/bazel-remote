import BR.Gen.Consts
import BR.Gen.Tables
import BR.Model.Auth
/-! Bridge: `readOnlyMethods`, the health-check name and the services registered by `ServeGRPC`,
as regenerated from server/grpc.go, are the ones model M9 uses.  Used by C13. -/
namespace BR.Bridge.Auth
open BR.Auth

theorem readOnlyMethods_eq : BR.Gen.readOnlyMethods = readOnly := by rfl
theorem healthCheck_eq : BR.Gen.server.grpcHealthServiceName = healthCheck := by rfl

/-- the services `ServeGRPC` registers: REAPI ActionCache, Capabilities, CAS; ByteStream; the
    Remote Asset Fetch service (when enabled); Health — all classified in `methodTable` -/
theorem registered_services :
    BR.Gen.registeredServices =
      ["pb.RegisterActionCacheServer", "pb.RegisterCapabilitiesServer",
       "pb.RegisterContentAddressableStorageServer", "bytestream.RegisterByteStreamServer",
       "asset.RegisterFetchServer", "grpc_health_v1.RegisterHealthServer"] := by rfl

end BR.Bridge.Auth
