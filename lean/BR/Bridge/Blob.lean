import BR.Gen.Consts
import BR.Gen.Tables
import BR.Model.CasBlob
/-!
Bridge: layout constants and the shape of `header.write` / `readHeader` / `WriteAndClose` in
cache/disk/casblob/casblob.go, as regenerated from the source, are what model M2 encodes.
Used by C01, C02, C14, C20.
-/
namespace BR.Bridge.Blob
open BR.CasBlob

theorem chunkTableOffset_eq : BR.Gen.casblob.chunkTableOffset = (chunkTableOffset : Int) := by rfl
theorem magic_eq : BR.Gen.casblob.skippableFrameMagicNumber = (magic : Int) := by rfl
theorem defaultChunkSize_eq : BR.Gen.casblob.defaultChunkSize = (defaultChunkSize : Int) := by rfl
theorem compression_tags : BR.Gen.casblob.Identity = 0 ∧ BR.Gen.casblob.Zstandard = 1 := ⟨rfl, rfl⟩

/-- field types: int64, uint8 (CompressionType), uint32, []int64 — the widths `encodeHeader` uses -/
theorem header_fields :
    BR.Gen.casblob_header_fields =
      ["uncompressedSize int64", "compression CompressionType", "chunkSize uint32", "chunkOffsets []int64"] := by rfl

theorem header_write_order :
    BR.Gen.casblob_header_write =
      ["binary.LittleEndian uint32(skippableFrameMagicNumber)", "binary.LittleEndian h.frameSize()",
       "binary.LittleEndian h.uncompressedSize", "binary.LittleEndian h.compression",
       "binary.LittleEndian h.chunkSize", "binary.LittleEndian int64(len(h.chunkOffsets))",
       "binary.LittleEndian h.chunkOffsets"] := by rfl

theorem header_read_order :
    BR.Gen.casblob_header_read =
      ["binary.LittleEndian &magicNumber", "binary.LittleEndian &frameSize",
       "binary.LittleEndian &h.uncompressedSize", "binary.LittleEndian &h.compression",
       "binary.LittleEndian &h.chunkSize", "binary.LittleEndian &numOffsets",
       "binary.LittleEndian h.chunkOffsets"] := by rfl

/-- `WriteAndClose` (zstd branch): header with zero table, per-chunk ReadFull/EncodeAll/Write, the
    trailing-data probe, the hash comparison, and only then Seek + table write + Sync + Close -/
theorem write_step_order :
    BR.Gen.casblob_write_steps =
      ["f.Close", "h.write", "io.Copy", "hasher.Sum", "f.Close", "io.ReadFull", "zstd.EncodeAll", "f.Write",
       "io.ReadFull", "hasher.Sum", "f.Seek", "binary.Write", "f.Sync", "f.Close"] := by rfl

end BR.Bridge.Blob
