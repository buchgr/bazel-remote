import BR.Gen.Tables
import BR.Gen.Consts
import BR.Model.Inline
/-!
Bridge: the read-side inlining (C11).  The budget constant, the nest of conditions of `maybeInline`
and the order in which `GetActionResult` hands stdout, stderr and the output files to it are
regenerated from server/grpc_ac.go on every run; model M8b (`BR.Inline.maybeInline`, `fits`,
`pipeline`) is written against exactly this shape.
-/
namespace BR.Bridge.Inline

theorem budget_source : BR.Gen.server.maxInlineSize = BR.Inline.maxInlineSize := by rfl

/-- `fits` = the first two tests; `!inline` branch: nothing to do for an empty slice, digest filled
in — or, when a digest is there and is not the digest of the bytes (`foreign`), the bytes stay inline
—, `Contains` then `Put` (a failing `Put` keeps the bytes inline and counts them); inline branch:
bytes already inline are counted, a nil or empty digest is left alone, a positive size is fetched -/
def conds : List String :=
  ["0: (*inlinedSoFar + int64(len(*slice))) > maxInlineSize", "0: else",
   "1: digest != nil && *digest != nil && (*inlinedSoFar + (*digest).SizeBytes) > maxInlineSize",
   "0: !inline", "1: len(*slice) == 0", "1: *digest == nil", "1: else",
   "2: (*digest).Hash != sliceHash || (*digest).SizeBytes != int64(len(*slice))",
   "1: !found", "2: err == nil || err == io.EOF", "2: else",
   "0: len(*slice) > 0", "0: digest == nil || *digest == nil || (*digest).SizeBytes == 0",
   "0: (*digest).SizeBytes > 0", "1: err != nil"]

theorem maybeInline_shape : BR.Gen.maybeInline_conds = conds := by rfl

/-- stdout, then stderr, then every output file (asked for iff its path is in the request) -/
theorem visit_order : BR.Gen.getActionResult_inline_order =
    ["req.InlineStdout, &result.StdoutRaw, &result.StdoutDigest",
     "req.InlineStderr, &result.StderrRaw, &result.StderrDigest",
     "ok, &of.Contents, &of.Digest"] := by rfl

end BR.Bridge.Inline
