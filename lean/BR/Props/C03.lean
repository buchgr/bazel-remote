import BR.Lemmas.DiskInv
import BR.Bridge.Lru
import BR.Bridge.Disk
/-!
# C03 — accounted size never exceeds max_size and equals entries plus reservations

Statement (properties.jsonl): at every instant `currentSize` = Σ roundUp4k(sizeOnDisk) over the
indexed entries + reserved bytes, ≤ max_size; the logical total and entry count are exact; reserved
bytes return to zero when no request is in flight.

Model: M1 (`BR.Model.Lru`), the index operations of lru.go, each of which the code runs inside one
`diskCache.mu` region.  "Every instant" = every state reachable by a finite sequence of such
operations (any interleaving of requests is a sequence of lock regions; that assumption is named in
DESIGN.md §4 C07).  The disk-level statements (reservation released on every path) are in
`BR.Props.C04`/M4.
-/
namespace BR.Props.C03
open BR.Lru

/-- **C03 (index level), full statement**: from an empty cache with `0 ≤ maxSize < 2^63`, after any
finite sequence of Add / Get / RemoveKey / RemoveElement / Reserve / Unreserve / background-unlink
operations with non-negative item sizes:
accounted size = reserved + Σ 4 KiB-rounded on-disk sizes, it is ≤ maxSize, the logical total is the
sum of rounded logical sizes, reserved ≥ 0, keys are unique (entry count = number of distinct keys)
and the eviction backlog counter equals the bytes queued. -/
theorem accounting_exact_and_bounded (m hl : Int) (h0 : 0 ≤ m) (h1 : m < 9223372036854775808)
    (ops : List Op) (hops : ∀ op ∈ ops, op.Wf) :
    let l := run (init m hl) ops
    l.cur = l.res + sumDisk l.order ∧ l.cur ≤ m ∧ l.unc = sumSize l.order ∧ 0 ≤ l.res ∧
      (l.order.map Elem.key).Nodup ∧ l.qsize = sumQueue l.queue := by
  intro l
  obtain ⟨hinv, hm⟩ : Inv l ∧ l.maxSize = m := run_spec (inv_init m hl h0 h1) ops hops
  exact ⟨hinv.cur_eq, hm ▸ hinv.cur_le, hinv.unc_eq, hinv.res_nonneg, hinv.keys_nodup, hinv.q_eq⟩

/-- the eviction loop of `Add` can never spin (the Go loop has no exit when the list is empty) and
`Reserve` never reaches its "internal reservation error" -/
theorem loops_never_stuck (m hl : Int) (h0 : 0 ≤ m) (h1 : m < 9223372036854775808)
    (ops : List Op) (hops : ∀ op ∈ ops, op.Wf) (k : String) (v : Item) (hv : 0 ≤ v.sizeOnDisk ∧ 0 ≤ v.size)
    (n : Int) :
    (add (run (init m hl) ops) k v).2 ≠ .stuck ∧ (reserve (run (init m hl) ops) n).2 ≠ some .internal := by
  have hinv := inv_run (inv_init m hl h0 h1) ops hops
  exact ⟨(moves_add hinv k v hv).1, (moves_reserve hinv rfl).1⟩

/-- a reservation followed by its release restores the reserved total (what every request path of
disk.go does around its file I/O) -/
theorem reserve_unreserve_restores (l : Lru) (hinv : Inv l) (n : Int) (hn : 0 < n)
    (hok : (reserve l n).2 = none) :
    (unreserve (reserve l n).1 n).2 = true ∧ (unreserve (reserve l n).1 n).1.res = l.res := by
  have m : Moves l (reserve l n).1 (if (reserve l n).2 = none then n else 0) [] := (moves_reserve hinv rfl).2
  rw [if_pos hok] at m
  have := hinv.res_nonneg; have := m.res
  rw [BR.Disk.unreserve_held m.inv hn (by omega)]
  exact ⟨rfl, by simp only; omega⟩

/-- the overflow-safe comparison used by `Reserve` is exact on int64 operands -/
theorem sumLargerThan_exact (a b c : Int) (ha : 0 < a) (hb : 0 ≤ b) (ha' : a < 9223372036854775808)
    (hb' : b < 9223372036854775808) (hc : c < 9223372036854775808) :
    sumLargerThan a b c = decide (a + b > c) := sumLargerThan_correct a b c ha hb ha' hb' hc

/-- the bit-level `roundUp4k` of lru.go equals the model's on every size that does not overflow -/
theorem roundUp4k_bits (n : BitVec 64) (h : n.toNat + 4095 < 2 ^ 63) :
    ((roundUp4kBV n).toNat : Int) = roundUp4k (n.toNat : Int) := roundUp4kBV_eq n h

/-- **C03 at the disk layer, every sequential history**: in every state reachable by any finite
sequence of Put / get / Contains requests — successful, rejected, failed at any stage (reservation
refused, short/long/failing stream, wrong hash, commit refused), with any back-end answer or fault —
and background-remover runs, the accounted size is exactly reservations + rounded entries and at
most `max_size`, the logical total is exact, and **the reserved bytes are zero** (every request
returned its reservation). -/
theorem disk_accounting_all_histories {C : BR.CasBlob.Codec} {H : BR.CasBlob.Bytes → String}
    {cfg : BR.Disk.Cfg} {m hl : Int} (h0 : 0 ≤ m) (h1 : m < 9223372036854775808) {d : BR.Disk.Disk}
    (hr : BR.Disk.Reach C H cfg m hl d) :
    d.lru.cur = sumDisk d.lru.order ∧ d.lru.cur ≤ d.lru.maxSize ∧ d.lru.unc = sumSize d.lru.order ∧
      d.lru.res = 0 ∧ (d.lru.order.map Elem.key).Nodup := by
  obtain ⟨hinv, hres⟩ := BR.Disk.reach_inv h0 h1 hr
  have := hinv.lru.cur_eq
  exact ⟨by omega, hinv.lru.cur_le, hinv.lru.unc_eq, hres, hinv.lru.keys_nodup⟩

/-! non-vacuity: a concrete history (with an overwrite, an eviction and a reservation) meets the
hypotheses, and its final state is what the theorem describes -/
def sampleOps : List Op :=
  [ .add "cas/a" ⟨5000, 3000, "r1", false⟩, .add "cas/b" ⟨100, 9000, "r2", false⟩, .reserve 4096,
    .add "cas/a" ⟨7000, 8000, "r3", false⟩, .get "cas/b", .unreserve 4096, .drainOne ]

example : (∀ op ∈ sampleOps, op.Wf) ∧ (run (init 20480 0) sampleOps).cur = 8192 ∧
    (run (init 20480 0) sampleOps).order.length = 1 := by
  refine ⟨by simp [sampleOps, Op.Wf], by decide, by decide⟩

#print axioms accounting_exact_and_bounded
#print axioms disk_accounting_all_histories
#print axioms loops_never_stuck
#print axioms reserve_unreserve_restores
#print axioms sumLargerThan_exact
#print axioms roundUp4k_bits
end BR.Props.C03
