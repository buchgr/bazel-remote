import BR.Lemmas.AC
/-!
# C06 — an action-cache hit implies every referenced CAS blob is present

Model M8 (`BR.AC`): `lookup present ar treeOf` is the outcome of `GetValidatedActionResult` for a
stored, valid ActionResult `ar`, where `present d` says whether CAS blob `d` (hash and size) is
available locally or in the back end at that moment (the fail-fast presence check, M7) and `treeOf`
decodes a stored Tree blob.  The server maps `miss` to NotFound / 404 (Bridge facts).
-/
namespace BR.Props.C06
open BR.AC

/-- every blob the result refers to: each output file without inline contents, each output
directory's Tree blob and every file listed in the Tree's root and child directories, stdout and
stderr digests -/
def referenced (ar : ActionResult) (trees : List Tree) : List Digest := treeDigests ar ++ pending ar trees

/-- **hit ⇒ all present**: if the lookup answers with a hit then every referenced blob — tree
blobs, files of the trees' root and child directories, non-inlined output files, stdout, stderr —
is present with the stated size. -/
theorem hit_implies_all_present (present : Present) (ar : ActionResult) (treeOf : Digest → Option Tree)
    (h : lookup present ar treeOf = .hit) :
    ∀ d ∈ referenced ar ((treeDigests ar).filterMap treeOf), present d = true := by
  obtain ⟨ht, hp⟩ := (lookup_hit_iff present ar treeOf).mp h
  intro d hd
  rcases List.mem_append.mp hd with hd | hd
  · exact (ht d hd).1
  · exact List.all_eq_true.mp hp d hd

/-- **absence is a miss, never an error or a partial result**: if every Tree blob that is present
decodes, the lookup answers `hit` or `miss` only, and it answers `miss` as soon as one referenced
blob is absent. -/
theorem absent_blob_is_miss (present : Present) (ar : ActionResult) (treeOf : Digest → Option Tree)
    (hdec : ∀ d ∈ treeDigests ar, present d = true → (treeOf d).isSome)
    (d : Digest) (hd : d ∈ referenced ar ((treeDigests ar).filterMap treeOf)) (habs : present d = false) :
    lookup present ar treeOf = .miss := by
  cases h : lookup present ar treeOf with
  | miss => rfl
  | hit => rw [hit_implies_all_present present ar treeOf h d hd] at habs; cases habs
  | err =>
    obtain ⟨t, ht, hp, hn⟩ := lookup_err h
    have := hdec t ht hp
    rw [hn] at this; cases this

/-- **a complete result is a hit**: when all referenced blobs are present (and the trees decode) -/
theorem all_present_is_hit (present : Present) (ar : ActionResult) (treeOf : Digest → Option Tree)
    (hdec : ∀ d ∈ treeDigests ar, (treeOf d).isSome)
    (hall : ∀ d ∈ referenced ar ((treeDigests ar).filterMap treeOf), present d = true) :
    lookup present ar treeOf = .hit :=
  (lookup_hit_iff present ar treeOf).mpr
    ⟨fun d hd => ⟨hall d (List.mem_append_left _ hd), hdec d hd⟩,
     List.all_eq_true.mpr fun d hd => hall d (List.mem_append_right _ hd)⟩

/-- inline contents are not looked up: a file that carries its contents is not a dependency -/
theorem inline_files_not_pending (f : OutputFile) (hc : f.hasContents = true) (rest : List (Option OutputFile))
    (ar : ActionResult) (har : ar.files = some f :: rest) (trees : List Tree) :
    pending ar trees = pending { ar with files := rest } trees := by
  simp [pending, har, hc]

/-! ### rewrites of the dependency walk

`GetValidatedActionResult` may collect the digests in any order, skip repetitions, batch them …
What the decision depends on is the *set* of digests (hash **and** size) handed to the presence
check.  `lookupWith norm` is the decision when the collected list is passed through `norm` first. -/

def lookupWith (norm : List Digest → List Digest) (present : Present) (ar : ActionResult)
    (treeOf : Digest → Option Tree) : GetOut :=
  match readTrees present treeOf (treeDigests ar) with
  | .error e => e
  | .ok trees => if (norm (pending ar trees)).all present then .hit else .miss

/-- any normalisation that keeps exactly the same digests (same hash and size) — sorting, removing
repeated digests, batching — leaves every decision unchanged, for every result, tree decoding and
presence state -/
theorem walk_rewrite_keeping_digests_is_sound (norm : List Digest → List Digest)
    (hn : ∀ l d, d ∈ norm l ↔ d ∈ l) (present : Present) (ar : ActionResult)
    (treeOf : Digest → Option Tree) :
    lookupWith norm present ar treeOf = lookup present ar treeOf := by
  unfold lookupWith lookup
  cases h : readTrees present treeOf (treeDigests ar) with
  | error e => rfl
  | ok trees =>
    -- `all` depends on membership only, and `norm` keeps membership
    have : (norm (pending ar trees)).all present = (pending ar trees).all present := by
      rw [Bool.eq_iff_iff, List.all_eq_true, List.all_eq_true]
      simp only [hn]
    simp only [this]

/-- removing repeated digests (hash and size equal) is such a normalisation -/
theorem dedup_by_digest_is_sound (present : Present) (ar : ActionResult) (treeOf : Digest → Option Tree) :
    lookupWith List.eraseDups present ar treeOf = lookup present ar treeOf :=
  walk_rewrite_keeping_digests_is_sound _ (fun _ _ => List.mem_eraseDups) present ar treeOf

/-- keep the first digest of every hash (what a `seen` set keyed by the hash alone does) -/
def dedupByHash : List Digest → List Digest
  | [] => []
  | d :: rest => d :: (dedupByHash rest).filter (fun e => e.hash != d.hash)

/-- de-duplicating by the hash alone is **not** sound: a result that lists the hash `a` once with
the size the CAS holds and once with another size is a hit under that rewrite although the second
digest is absent (seeded change C06-m7; the same input is the harness's
`mismatch.twin-of-earlier-reference` case) -/
theorem dedup_by_hash_is_unsound :
    ∃ (present : Present) (ar : ActionResult) (treeOf : Digest → Option Tree),
      lookupWith dedupByHash present ar treeOf = .hit ∧ lookup present ar treeOf = .miss ∧
      ∃ d ∈ referenced ar [], present d = false :=
  ⟨fun d => d == ⟨"a", 1⟩,
   { files := [some ⟨"f", some ⟨"a", 1⟩, false⟩, some ⟨"g", some ⟨"a", 2⟩, false⟩], dirs := [],
     fileSymlinks := [], symlinks := [], dirSymlinks := [], stdoutDigest := none, stderrDigest := none },
   fun _ => none, by decide, by decide, ⟨⟨"a", 2⟩, by decide, by decide⟩⟩

/-! non-vacuity: one output file and one output directory whose tree lists a second file.  A hit
with all three blobs present, a miss without the tree's file, a miss without the tree -/
def dA : Digest := ⟨"a", 1⟩
def dB : Digest := ⟨"b", 2⟩
def dT : Digest := ⟨"t", 3⟩
def arX : ActionResult :=
  { files := [some ⟨"f", some dA, false⟩], dirs := [some ⟨"d", some dT⟩], fileSymlinks := [], symlinks := [],
    dirSymlinks := [], stdoutDigest := none, stderrDigest := none }
def treeX : Digest → Option Tree := fun d => if d = dT then some ⟨[⟨some dB⟩], []⟩ else none

example : lookup (fun _ => true) arX treeX = .hit ∧ lookup (fun d => d != dB) arX treeX = .miss ∧
    lookup (fun d => d != dT) arX treeX = .miss := by decide

#print axioms hit_implies_all_present
#print axioms absent_blob_is_miss
#print axioms all_present_is_hit
#print axioms inline_files_not_pending
#print axioms walk_rewrite_keeping_digests_is_sound
#print axioms dedup_by_digest_is_sound
#print axioms dedup_by_hash_is_unsound
end BR.Props.C06
