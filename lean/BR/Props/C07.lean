import BR.Lemmas.ConcKeep
import BR.Props.C05
/-!
# C07 — concurrent requests see whole values and never corrupt index or accounting (partial)

Model M5 (`BR.Conc`): any number of uploads and reads and the background remover, interleaved at
the granularity of the index-lock regions and file-system steps of disk.go, with files on disk
being corrupted at arbitrary moments.  Every theorem below that speaks of `BR.Conc.run` holds for **every
schedule** (any list of steps).  The statements take the uploads to be non-empty (`hpos`; disk.go `Put` answers
the empty CAS blob before `Reserve` and stores nothing); no proof uses it.  What the space-making steps
`Reserve` and `commit` may evict is C05's theorem about the sequential index (`BR.Props.C05`), which applies
because both run inside one lock region.

* `step_total` — every BR.Conc.step is a total function of the state: no schedule blocks a request
  (the model has no waiting; lock discipline of the real code is a regenerated fact, see Bridge).

**Partial**: the model assumes each lock region is atomic, that memory is touched only inside lock
regions, that an open file keeps its content after being unlinked, and that `tempfile.Create`
never returns a name in use.  Data races are looked for by the thorough tier (`-race`), not proved
absent.
-/
namespace BR.Props.C07
open BR.Conc BR.Lru

/-- **accounting under every interleaving**: after any schedule the index invariant of C03 holds
and exactly the uploads in flight hold reservations -/
theorem conc_accounting (M H : Int) (h0 : 0 ≤ M) (h1 : M < 9223372036854775808) (puts : List (String × List Nat))
    (gets : List String) (hpos : ∀ p ∈ puts, 0 < p.2.length) (sched : List Step) :
    let s := BR.Conc.run (initState M H puts gets) sched
    Inv s.lru ∧ s.lru.res = (s.puts.map PutT.held).sum :=
  let h := (reach_good M H h0 h1 puts gets sched).acc
  ⟨h.lru, h.res⟩

/-- at quiescence (no upload between `Reserve` and `commit`) nothing is reserved and the accounted
size is exactly the sum of the indexed entries, within `max_size` -/
theorem conc_quiescent_accounting (M H : Int) (h0 : 0 ≤ M) (h1 : M < 9223372036854775808)
    (puts : List (String × List Nat)) (gets : List String) (hpos : ∀ p ∈ puts, 0 < p.2.length) (sched : List Step)
    (hq : ∀ p ∈ (BR.Conc.run (initState M H puts gets) sched).puts, p.held = 0) :
    (BR.Conc.run (initState M H puts gets) sched).lru.res = 0 ∧
    (BR.Conc.run (initState M H puts gets) sched).lru.cur = sumDisk (BR.Conc.run (initState M H puts gets) sched).lru.order ∧
    (BR.Conc.run (initState M H puts gets) sched).lru.cur ≤ (BR.Conc.run (initState M H puts gets) sched).lru.maxSize := by
  have h := (reach_good M H h0 h1 puts gets sched).acc
  have hres := h.res.trans (BR.ListAux.sum_map_eq_zero PutT.held hq)
  refine ⟨hres, ?_, h.lru.cur_le⟩
  have := h.lru.cur_eq
  omega

/-- **the directory under every interleaving**: after any schedule every file on disk is the file
of an entry the index still tracks (indexed, or queued for the remover) or the completed file of an
upload that has not committed yet; every tracked entry has its file; no two files and no two
tracked entries share a name.  (C04 for concurrent histories, in model M5.) -/
theorem conc_directory (M H : Int) (h0 : 0 ≤ M) (h1 : M < 9223372036854775808) (puts : List (String × List Nat))
    (gets : List String) (hpos : ∀ p ∈ puts, 0 < p.2.length) (sched : List Step) :
    FInv (BR.Conc.run (initState M H puts gets) sched) :=
  (reach_good M H h0 h1 puts gets sched).dir

/-- at quiescence — no upload between write and commit, removal queue empty — the files on disk are
exactly the files of the indexed entries, one each -/
theorem conc_quiescent_directory (M H : Int) (h0 : 0 ≤ M) (h1 : M < 9223372036854775808)
    (puts : List (String × List Nat)) (gets : List String) (hpos : ∀ p ∈ puts, 0 < p.2.length) (sched : List Step)
    (hq : ∀ p ∈ (BR.Conc.run (initState M H puts gets) sched).puts, p.pc ≠ .written)
    (hqueue : (BR.Conc.run (initState M H puts gets) sched).lru.queue = []) :
    ((BR.Conc.run (initState M H puts gets) sched).files.map (fun f => (f.key, f.rnd))).Perm
      ((BR.Conc.run (initState M H puts gets) sched).lru.order.map (fun e => (e.key, e.val.random))) := by
  have h := (reach_good M H h0 h1 puts gets sched).dir.files_perm hq
  simpa [tracked, hqueue, qOf, List.map_map, Function.comp_def] using h

/-- **an acknowledged upload is in the index**: when the commit region (`Unreserve` + `Add` under one
lock) of an upload succeeds and the item fits next to the reservations of the *other* requests in
flight, the key is indexed with exactly the uploaded item — whatever else is interleaved before
and after; it stays there until space pressure evicts it or a failed read of that very file drops
it (C05, `removeIfSame`). -/
theorem acked_upload_is_indexed {l : Lru} (h : Inv l) (key : String) (n : Int) (item : Item) (hn : 0 < n) (hle : n ≤ l.res)
    (hv : 0 ≤ item.sizeOnDisk ∧ 0 ≤ item.size) (hok : (BR.Disk.commit l key n item).2 = .ok)
    (hfit : (l.res - n) + roundUp4k item.sizeOnDisk ≤ l.maxSize) :
    ∃ e, find? (BR.Disk.commit l key n item).1 key = some e ∧ e.val = item :=
  BR.Disk.commit_found h hle key item hv hok (by omega)

/-- **an indexed entry whose file is intact is served**: in every reachable state, a read of a key
that has an index entry finds the entry's file (it exists, by the directory invariant) and returns
its complete content, when lookup and open are not separated by other steps.  (With steps in
between, the slow path and `read_whole_value` apply.) -/
theorem indexed_entry_is_served (M H : Int) (h0 : 0 ≤ M) (h1 : M < 9223372036854775808) (puts : List (String × List Nat))
    (gets : List String) (hpos : ∀ p ∈ puts, 0 < p.2.length) (sched : List Step) (j : Nat) (g : GetT) (e : Elem)
    (hg : (BR.Conc.run (initState M H puts gets) sched).gets[j]? = some g) (hidle : g.pc = .idle)
    (hfind : find? (BR.Conc.run (initState M H puts gets) sched).lru g.key = some e) :
    ∃ f ∈ (BR.Conc.run (initState M H puts gets) sched).files, f.key = g.key ∧ f.rnd = e.val.random ∧
      (f.corrupt = false →
        (BR.Conc.step (BR.Conc.step (BR.Conc.run (initState M H puts gets) sched) (.getLookup j)) (.getOpen j)).gets[j]? =
          some { g with pc := .done (some f.content) }) := by
  have hf := (reach_good M H h0 h1 puts gets sched).dir
  generalize BR.Conc.run (initState M H puts gets) sched = s at hf hg hfind
  obtain ⟨f, hfo⟩ := hf.fileOf_find hfind
  obtain ⟨hfm, hfk, hfr⟩ := fileOf_spec hfo
  refine ⟨f, hfm, hfk, hfr, ?_⟩
  intro hnc
  have hj : j < s.gets.length := (List.getElem?_eq_some_iff.mp hg).1
  have hget : (Lru.get s.lru g.key).2 = some e := (get_snd _ _).trans hfind
  have hs1 : BR.Conc.step s (.getLookup j) =
      setGet { s with lru := (Lru.get s.lru g.key).1 } j { g with pc := .looked e } := by
    simp only [BR.Conc.step, hg, hidle]
    generalize Lru.get s.lru g.key = r at hget
    obtain ⟨l, o⟩ := r
    cases hget; rfl
  rw [hs1]
  have hg1 : (setGet { s with lru := (Lru.get s.lru g.key).1 } j { g with pc := .looked e }).gets[j]? =
      some { g with pc := .looked e } := by
    simp [setGet, hj]
  simp only [BR.Conc.step, hg1]
  simp only [setGet, hfo, openResult, hnc, Bool.false_eq_true, if_false]
  simp [hj]

/-- **an acknowledged value stays until pressure, overwrite or its own corruption**: in every
reachable state, a value indexed under `k` is still indexed, and found by a lookup, after any
further schedule whose steps are quiet for it (`BR.Conc.quiet`): lookups, opens including the slow
path, the background remover, corruption of any file, failed writes of other uploads and removals
by readers that failed on *other* files all keep it.  Only `Reserve`/`commit` of an upload (eviction
under space pressure, overwrite of the same key) and the removal by a reader that could not decode
this very file are excluded. -/
theorem acked_entry_kept (M H : Int) (h0 : 0 ≤ M) (h1 : M < 9223372036854775808) (puts : List (String × List Nat))
    (gets : List String) (hpos : ∀ p ∈ puts, 0 < p.2.length) (sched rest : List Step) (k : String) (v : Item)
    (hh : Holds (BR.Conc.run (initState M H puts gets) sched).lru k v)
    (hq : quietSched v (BR.Conc.run (initState M H puts gets) sched) rest) :
    ∃ e, find? (BR.Conc.run (BR.Conc.run (initState M H puts gets) sched) rest).lru k = some e ∧ e.val = v := by
  have h := reach_good M H h0 h1 puts gets sched
  exact holds_find (run_good h rest).acc.lru.toWf (run_keeps h rest hh hq)

/-- **F23 as a theorem**: a reader that failed on a file with another temp suffix than the indexed
value's (an older file of the key) does not remove the value when it finally runs its removal -/
theorem stale_reader_cannot_drop (M H : Int) (h0 : 0 ≤ M) (h1 : M < 9223372036854775808) (puts : List (String × List Nat))
    (gets : List String) (hpos : ∀ p ∈ puts, 0 < p.2.length) (sched : List Step) (k : String) (v : Item) (j : Nat) (g : GetT) (e : Elem)
    (hh : Holds (BR.Conc.run (initState M H puts gets) sched).lru k v)
    (hg : (BR.Conc.run (initState M H puts gets) sched).gets[j]? = some g) (hpc : g.pc = .failed e)
    (hne : e.val.random ≠ v.random) :
    Holds (BR.Conc.step (BR.Conc.run (initState M H puts gets) sched) (.getRemove j)).lru k v := by
  refine step_keeps (reach_good M H h0 h1 puts gets sched) _ hh ?_
  intro g' e' hg' hpc'
  rw [hg] at hg'
  cases hg'
  rw [hpc] at hpc'
  cases hpc'
  exact hne

/-- **every read returns a whole value**: under every schedule, with files being corrupted at any
time, a read that returns data returns the complete bytes of one upload to the same key whose file
had been written completely — never a torn, mixed, truncated or foreign value -/
theorem read_whole_value (M H : Int) (h0 : 0 ≤ M) (h1 : M < 9223372036854775808) (puts : List (String × List Nat))
    (gets : List String) (hpos : ∀ p ∈ puts, 0 < p.2.length) (sched : List Step) (j : Nat) (g : GetT) (c : List Nat)
    (hg : (BR.Conc.run (initState M H puts gets) sched).gets[j]? = some g) (hc : g.pc = .done (some c)) :
    ∃ (i : Nat) (p : PutT), (BR.Conc.run (initState M H puts gets) sched).puts[i]? = some p ∧ p.key = g.key ∧ p.data = c ∧ p.wrote = true :=
  (reach_good M H h0 h1 puts gets sched).acc.reads g (List.mem_of_getElem? hg) c hc

/-- what identifies an upload: its key and its bytes (the program counter is what steps change) -/
def ident (p : PutT) : String × List Nat := (p.key, p.data)

/-- the uploads of a schedule are the ones it was started with: a step on upload `i` changes only
its program counter, a step of a read or of the remover changes no upload -/
theorem put_step_keeps_identity (s : State) (i : Nat) (p : PutT) (pc : PutPc) (s0 : State)
    (h : s.puts[i]? = some p) (hs : s0.puts = s.puts) :
    (setPut s0 i { p with pc := pc }).puts.map ident = s.puts.map ident := by
  simp only [setPut, hs]
  exact BR.ListAux.map_set_same ident h rfl

/-! non-vacuity: a schedule in which a reader looks the entry up, the entry is overwritten and the
old file unlinked before the reader opens it (slow path), and the reader still gets a whole value -/
def demo : State := BR.Conc.run (initState 8192 0 [("ac/k", [1, 2, 3]), ("ac/k", [4, 5, 6, 7])] ["ac/k"])
  [.putReserve 0, .putWrite 0 false, .putCommit 0, .getLookup 0,
   .putReserve 1, .putWrite 1 false, .putCommit 1, .unlink, .getOpen 0]

example : (demo.gets.map (fun g => match g.pc with | .done r => r | _ => none)) = [some [4, 5, 6, 7]] := by decide
example : demo.lru.res = 0 ∧ demo.files.length = 1 := by decide

/-- the schedule of finding F23 (a reader that failed on a corrupted file removes its captured
element after two uploads replaced the value in place): with the repaired removal the fresh upload
stays indexed and a later read finds it -/
def f23 : State := BR.Conc.run (initState 1073741824 0 [("cas/k", [1, 1]), ("cas/k", [1, 1]), ("cas/k", [1, 1])] ["cas/k", "cas/k", "cas/k"])
  [.putReserve 2, .putWrite 2 false, .putCommit 2, .getLookup 1, .corrupt "cas/k" (rndOf 2),
   .putReserve 1, .putWrite 1 false, .putCommit 1, .getOpen 1,
   .putReserve 0, .putWrite 0 false, .putCommit 0, .getRemove 1, .getLookup 2, .getOpen 2]

example : (f23.gets.map (fun g => match g.pc with | .done r => r | _ => none)) = [none, none, some [1, 1]] := by decide

/-- non-vacuity of `stale_reader_cannot_drop`: in the F23 schedule, just before the stale removal,
the fresh upload's value is indexed and reader 1 holds a failed element of an older file -/
def f23pre : State := BR.Conc.run (initState 1073741824 0 [("cas/k", [1, 1]), ("cas/k", [1, 1]), ("cas/k", [1, 1])] ["cas/k", "cas/k", "cas/k"])
  [.putReserve 2, .putWrite 2 false, .putCommit 2, .getLookup 1, .corrupt "cas/k" (rndOf 2),
   .putReserve 1, .putWrite 1 false, .putCommit 1, .getOpen 1,
   .putReserve 0, .putWrite 0 false, .putCommit 0]
example : (f23pre.lru.order.map (fun e => (e.key, e.val.random))) = [("cas/k", rndOf 0)] ∧
    (f23pre.gets.map (fun g => match g.pc with | .failed e => e.val.random | _ => "")) = ["", rndOf 2, ""] := by decide

/-- non-vacuity of `acked_entry_kept` / `stale_reader_cannot_drop`: in `f23pre` the fresh upload's
value is indexed (`Holds`), and the stale removal of reader 1 keeps it -/
example : Holds f23pre.lru "cas/k" (itemOf ⟨"cas/k", [1, 1], .idle⟩ 0) := by
  unfold Holds; decide
example : ((BR.Conc.step f23pre (.getRemove 1)).lru.order.map (fun e => e.val.random)) = [rndOf 0] := by decide

#print axioms conc_accounting
#print axioms conc_quiescent_accounting
#print axioms read_whole_value
#print axioms conc_directory
#print axioms indexed_entry_is_served
#print axioms acked_upload_is_indexed
#print axioms conc_quiescent_directory
#print axioms put_step_keeps_identity
#print axioms acked_entry_kept
#print axioms stale_reader_cannot_drop
end BR.Props.C07
