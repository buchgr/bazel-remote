import BR.Bridge.Lru
import BR.Lemmas.DiskProxy
import BR.Lemmas.ConcDir
/-!
# C17 — max_size_hard_limit refuses overload with a retryable error; reads continue

Model M1: `Reserve` is the single admission point of every upload and backend fetch
(disk.go `Put` / `availableOrTryProxy`, and — for a fetch whose size the request did not state — the
reservation `get` makes once the back end has announced the size: `unknown_size_fetch_refused`,
`unknown_size_fetch_hit_was_admitted` on model M4); `qsize` is `queuedEvictionsSize`, the bytes of files removed
from the index but not yet unlinked by the background remover (`drainOne` = one unlink).
The mapping 507 → RESOURCE_EXHAUSTED is a regenerated fact (`BR.Gen`, `gRPCErrCode`).
-/
namespace BR.Props.C17
open BR.Lru

/-- **admission test**: for a positive size that passes the `maxSize` tests, `Reserve` answers with
the hard-limit refusal (507) **iff** the option is on and accounted size + deletion backlog + new
item exceeds the limit (no uint64 wrap: the sum is below 2^64). -/
theorem hard_limit_refuses_iff {l : Lru} (h : Inv l) (size : Int) (hpos : 0 < size) (hle : size ≤ l.maxSize)
    (hfit : size + l.res ≤ l.maxSize) (hnw : l.cur + l.qsize + size < 18446744073709551616)
    (hh : l.hardLimit < 9223372036854775808) :
    (reserve l size).2 = some .insufficientHard ↔ (0 < l.hardLimit ∧ l.cur + l.qsize + size > l.hardLimit) :=
  h.reserve_hard_iff size hpos hfit hnw hh

/-- **a refusal stores nothing and evicts nothing**: whatever error `Reserve` returns, the state
(index, order, counters, backlog) is unchanged. -/
theorem refusal_state_unchanged {l : Lru} (h : Inv l) (size : Int) (e : Err)
    (herr : (reserve l size).2 = some e) : (reserve l size).1 = l :=
  reserve_err_unchanged h size e herr

/-- **retry succeeds after the deletions caught up**: once the backlog has drained, a reservation
that fits under the hard limit by itself (`cur + size ≤ hardLimit`) is not refused for this reason. -/
theorem retry_after_drain {l : Lru} (h : Inv l) (size : Int) (hpos : 0 < size) (hle : size ≤ l.maxSize)
    (hfit : size + l.res ≤ l.maxSize) (hh : l.hardLimit < 9223372036854775808)
    (hroom : l.cur + size ≤ l.hardLimit) :
    (reserve (drainAll l) size).2 ≠ some .insufficientHard := by
  have hinv := inv_drainAll h
  have hq : (drainAll l).qsize = 0 := by
    simp only [drainAll]; have := h.q_eq; omega
  have hc : (drainAll l).cur = l.cur := rfl
  have hm := h.max_lt
  have hcl := h.cur_le
  intro hx
  have := (hinv.reserve_hard_iff size hpos hfit (by rw [hq, hc]; omega) hh).mp hx
  rw [hq, hc] at this
  have h2 : (drainAll l).hardLimit = l.hardLimit := rfl
  omega

/-- draining the backlog never changes the index or the accounted size, so retries converge -/
theorem drain_keeps_index (l : Lru) :
    (drainOne l).1.order = l.order ∧ (drainOne l).1.cur = l.cur ∧ (drainOne l).1.res = l.res := by
  rcases drainOne_cases l with ⟨e, _⟩ | ⟨_, _, _, e⟩ <;> rw [e] <;> exact ⟨rfl, rfl, rfl⟩

/-- **without the option no request is refused for this reason** -/
theorem disabled_never_refuses (l : Lru) (size : Int) (hoff : l.hardLimit ≤ 0) :
    (reserve l size).2 ≠ some .insufficientHard := no_hard_refusal_when_disabled l size hoff

/-- **reads and existence checks are served throughout**: the index lookup does not consult the
limit or the backlog at all. -/
theorem reads_ignore_limit (l : Lru) (k : String) (hl q : Int) :
    (Lru.get { l with hardLimit := hl, qsize := q } k).2 = (Lru.get l k).2 := by
  -- `find?` reads the order only
  rw [get_snd, get_snd]; rfl

/-- **a back-end fetch of unknown size goes through the same admission**: when the request did not
state the size (HTTP GET, every action-cache fetch) the size announced by the back end is reserved
before anything is written; if that reservation is refused (507 for the hard limit or for space held
by other requests) the read fails with that code and the cache state is unchanged — nothing stored,
nothing evicted.  (Finding F27: this reservation did not exist.) -/
theorem unknown_size_fetch_refused (C : BR.CasBlob.Codec) (d : BR.Disk.Disk) {l : Lru} (hl : Inv l) (kind : BR.Disk.Kind) (hash : String)
    (size offset : Int) (zstd : Bool) (s : BR.CasBlob.Stream) (fs : Int) (rnd : String) (e : Err)
    (hsz : size ≤ 0) (hfs : 0 < fs) (hmax : fs ≤ d.cfg.maxProxyBlobSize) (hmm : BR.Disk.isSizeMismatch size fs = false)
    (href : (reserve l fs).2 = some e) :
    BR.Disk.fetchFromProxy C d l kind hash size offset zstd (.found s fs) rnd =
      ({ d with lru := l }, .err (BR.Disk.codeOfErr e)) := by
  rw [BR.Disk.fetchFromProxy_late ⟨hsz, hfs, hmax, hmm⟩, href,
    reserve_err_unchanged hl fs e href]

/-- conversely, a hit served from the back end for a request of unknown size was admitted by
`Reserve` for exactly the announced size -/
theorem unknown_size_fetch_hit_was_admitted (C : BR.CasBlob.Codec) (d : BR.Disk.Disk) (l : Lru) (kind : BR.Disk.Kind) (hash : String)
    (size offset : Int) (zstd : Bool) (pg : BR.Disk.ProxyGet) (rnd : String) (hit : BR.Disk.Hit) (hsz : size ≤ 0)
    (hh : (BR.Disk.fetchFromProxy C d l kind hash size offset zstd pg rnd).2 = .hit hit) :
    hit.size = 0 ∨ (reserve l hit.size).2 = none := by
  obtain ⟨s, fs, rfl, hs⟩ := BR.Disk.fetchFromProxy_hit_only_if hh
  obtain rfl := hs.size_eq
  by_cases hz : hit.size = 0
  · exact .inl hz
  · rw [BR.Disk.fetchFromProxy_late ⟨hsz, by have := hs.nonneg; omega, hs.le_max, hs.compatible⟩] at hh
    cases hr : (reserve l hit.size).2 with
    | some e => rw [hr] at hh; cases hh
    | none => exact .inr rfl

/-- **the backlog the admission test reads is exact under every interleaving** (model M5: uploads,
reads, the background remover taking one entry at a time, files being corrupted): in every reachable
state the counter `qsize` equals the summed on-disk sizes of the entries that were removed from the
index and are not yet unlinked, and each of those entries still has its file on disk — so
"accounted size + backlog + new item" is what is really occupied plus what is asked for. -/
theorem conc_backlog_exact (M H : Int) (h0 : 0 ≤ M) (h1 : M < 9223372036854775808) (puts : List (String × List Nat))
    (gets : List String) (hpos : ∀ p ∈ puts, 0 < p.2.length) (sched : List BR.Conc.Step) :
    (BR.Conc.run (BR.Conc.initState M H puts gets) sched).lru.qsize =
        sumQueue (BR.Conc.run (BR.Conc.initState M H puts gets) sched).lru.queue ∧
    ∀ q ∈ (BR.Conc.run (BR.Conc.initState M H puts gets) sched).lru.queue,
      ∃ f ∈ (BR.Conc.run (BR.Conc.initState M H puts gets) sched).files, f.key = q.1 ∧ f.rnd = q.2.random := by
  have h := BR.Conc.reach_good M H h0 h1 puts gets sched
  refine ⟨h.acc.lru.q_eq, ?_⟩
  intro q hq
  exact h.dir.t_file q (List.mem_append_right _ hq)

/-- **the admission test, in terms of what is on disk, under every interleaving**: in every state
that uploads, reads, the remover and file corruptions can reach, a positive reservation that passes
the `max_size` tests is refused for the hard limit exactly when the option is on and

  bytes reserved by requests in flight + block-rounded sizes of the indexed entries
    + on-disk sizes of the entries evicted but not yet unlinked + the new item  >  the limit

— the middle terms being sums over entries each of which has its file on disk (`conc_directory`,
`conc_backlog_exact`). -/
theorem conc_admission_exact (M H : Int) (h0 : 0 ≤ M) (h1 : M < 9223372036854775808) (puts : List (String × List Nat))
    (gets : List String) (hpos : ∀ p ∈ puts, 0 < p.2.length) (sched : List BR.Conc.Step) (size : Int)
    (hsz : 0 < size) (hle : size ≤ M)
    (hfit : size + (BR.Conc.run (BR.Conc.initState M H puts gets) sched).lru.res ≤ M)
    (hnw : (BR.Conc.run (BR.Conc.initState M H puts gets) sched).lru.cur +
        (BR.Conc.run (BR.Conc.initState M H puts gets) sched).lru.qsize + size < 18446744073709551616)
    (hh : H < 9223372036854775808) :
    (reserve (BR.Conc.run (BR.Conc.initState M H puts gets) sched).lru size).2 = some .insufficientHard ↔
      (0 < H ∧
        (BR.Conc.run (BR.Conc.initState M H puts gets) sched).lru.res +
          sumDisk (BR.Conc.run (BR.Conc.initState M H puts gets) sched).lru.order +
          sumQueue (BR.Conc.run (BR.Conc.initState M H puts gets) sched).lru.queue + size > H) := by
  have hc := (BR.Conc.reach_good M H h0 h1 puts gets sched).acc
  generalize BR.Conc.run (BR.Conc.initState M H puts gets) sched = s at hc hfit hnw ⊢
  have hiff := hc.lru.reserve_hard_iff size hsz (hc.maxSize ▸ hfit) hnw (hc.hardLimit ▸ hh)
  rw [hiff, hc.hardLimit, hc.lru.cur_eq, hc.lru.q_eq]

/-- non-vacuity of `conc_admission_exact`: two blocks of cache, a hard limit one byte above; after a
third upload evicted the first, its file is still on disk and a fourth upload is refused; after the
remover's unlink it is admitted -/
def lagging : BR.Conc.State := BR.Conc.run (BR.Conc.initState 8192 8193 [("ac/a", [1]), ("ac/b", [1]), ("ac/c", [1])] [])
  [.putReserve 0, .putWrite 0 false, .putCommit 0, .putReserve 1, .putWrite 1 false, .putCommit 1,
   .putReserve 2, .putWrite 2 false, .putCommit 2]
example : lagging.lru.queue.length = 1 ∧ lagging.files.length = 3 ∧
    (reserve lagging.lru 1).2 = some .insufficientHard ∧
    (reserve (BR.Conc.step lagging .unlink).lru 1).2 = none := by decide

/-! non-vacuity: a state in which the refusal happens, and the same request admitted after draining -/
def busy : Lru := run (init 16384 24576) [.add "cas/a" ⟨1, 8192, "r", false⟩, .add "cas/b" ⟨1, 8192, "r", false⟩,
  .add "cas/c" ⟨1, 8192, "r", false⟩]

example : (reserve busy 8192).2 = some .insufficientHard ∧ (reserve busy 8192).1.order = busy.order ∧
    (reserve (drainAll busy) 8192).2 = none := by decide

#print axioms hard_limit_refuses_iff
#print axioms refusal_state_unchanged
#print axioms conc_backlog_exact
#print axioms conc_admission_exact
#print axioms unknown_size_fetch_refused
#print axioms unknown_size_fetch_hit_was_admitted
#print axioms retry_after_drain
#print axioms drain_keeps_index
#print axioms disabled_never_refuses
#print axioms reads_ignore_limit
end BR.Props.C17
