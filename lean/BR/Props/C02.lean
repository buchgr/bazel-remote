import BR.Lemmas.BlobWrite
import BR.Lemmas.Toy
import BR.Bridge.Blob
import BR.Lemmas.Proto
/-!
# C02 — CAS reads return exactly the stored bytes on every path, offset and encoding

Model M2 (`BR.CasBlob`).  A stored compressed CAS entry is a *conformant* file (`Conformant`): the
published header followed by one independently compressed frame per `cs`-byte chunk, for **any**
chunk size `cs` and **any** frames that decode to the chunks (any encoder settings).  The zstd codec
is a parameter with the laws `Codec.Lawful`.
-/
namespace BR.Props.C02
open BR.CasBlob

/-- **uncompressed read**: for every conformant file of `data`, every offset below the size and
size known or unknown (−1), `GetUncompressedReadCloser` yields exactly `data[offset:]` and a clean EOF. -/
theorem raw_read_exact {C : Codec} (hl : C.Lawful) {cs : Nat} {pairs : List (Bytes × Bytes)} {file : Bytes}
    (hc : Conformant C cs pairs file) (off : Nat) (hoff : off < (dataOf pairs).length)
    (exp : Int) (hexp : exp = -1 ∨ exp = ((dataOf pairs).length : Int)) :
    readRaw C file exp (off : Int) = .ok ((dataOf pairs).drop off, true) :=
  readRaw_conformant hl hc off hoff exp hexp

/-- **zstd read**: the stream returned by `GetZstdReadCloser` decodes, with any decoder that obeys
the codec laws and skips the (skippable-frame) header, to exactly `data[offset:]`. -/
theorem zstd_read_exact {C : Codec} (hl : C.Lawful) {cs : Nat} {pairs : List (Bytes × Bytes)} {file : Bytes}
    (hc : Conformant C cs pairs file) (off : Nat) (hoff : off < (dataOf pairs).length)
    (exp : Int) (hexp : exp = -1 ∨ exp = ((dataOf pairs).length : Int))
    (hskip : ∀ r, C.decStream (encodeHeader (hdrOf cs pairs) ++ r) = C.decStream r) :
    ∃ z, readZstd C file exp (off : Int) = .ok z ∧ C.decStream z = ((dataOf pairs).drop off, true) :=
  readZstd_conformant hl hc off hoff exp hexp fun _ => hskip

/-- **what this build stores is readable at every offset**: a successful `WriteAndClose` of `data`
(any size, chunk size `cs`) followed by a read at any `off < |data|` returns `data[off:]`. -/
theorem write_then_read (C : Codec) (hl : C.Lawful) (H : Bytes → String) (cs : Nat) (hcs : 0 < cs)
    (hcs2 : cs < 4294967296) (data : Bytes) (hash : String)
    (hn : 0 < data.length) (hH : H data = hash) (file : Bytes)
    (hfile : (writeAndClose C H cs ⟨data, false⟩ (data.length : Int) hash).images.getLast? = some file)
    (hsmall : (file.length : Int) < 9223372036854775808) (hdsmall : (data.length : Int) < 9223372036854775808)
    (hfit : 8 * ((wantLens data.length cs).length + 1) + 21 < 4294967296)
    (off : Nat) (hoff : off < data.length) (exp : Int) (hexp : exp = -1 ∨ exp = (data.length : Int)) :
    readRaw C file exp (off : Int) = .ok (data.drop off, true) :=
  written_readRaw C hl H hcs hcs2 (s := ⟨data, false⟩) (size := data.length) ⟨by omega, rfl, rfl, hH⟩ hdsmall hfile hsmall
    (by simpa using hfit) off hoff exp hexp

/-- **bytes delivered before an error are a prefix; readers never crash**: the readers are total
functions of (file, expected size, offset) — see also C14. -/
theorem readers_total (C : Codec) (file : Bytes) (exp off : Int) :
    readRaw C file exp off ≠ .panic ∧ readZstd C file exp off ≠ .panic := readers_never_panic C file exp off

/-- the size a read reports for a compressed entry is the header's logical size, which `readHeader`
compares with the requested size: a mismatching request is an error, never a short hit -/
theorem size_mismatch_is_error (C : Codec) (file : Bytes) (h : Header) (hp : parseHeader file = .ok h)
    (exp off : Int) (hne : exp ≠ -1) (hmis : h.uncompressedSize ≠ exp) :
    readRaw C file exp off = .err 10 ∧ readZstd C file exp off = .err 10 := by
  rw [readRaw_eq, readZstd_eq, hp]
  simp only [Res.bind_ok, if_pos (And.intro hne hmis), and_self]

/-! ### ByteStream.Read: range checks and `read_limit` (model M10) -/

open BR.Proto in
/-- **every offset within the blob is readable**: for a well-formed resource name of a present
blob, any `read_offset` with `0 ≤ offset ≤ size` and any admissible `read_limit` (non-negative; 0
for compressed-blobs names) is answered with data or an empty success, never with an error -/
theorem read_within_range_is_served (split : String → List String) (present : String → Int → Bool)
    (name hash : String) (size : Int) (z : Bool) (offset limit : Int)
    (hp : parseRead (split name) = .ok (hash, size, z)) (hpres : present hash size = true)
    (ho : 0 ≤ offset ∧ offset ≤ size) (hl : 0 ≤ limit) (hz : z = true → limit = 0) :
    readPre split present name offset limit = .stream ∨ readPre split present name offset limit = .empty ∨
      readPre split present name offset limit = .emptyZstd := by
  unfold readPre
  rw [hp]
  simp only
  by_cases hs : size = 0
  · simp only [hs, if_true]; cases z <;> simp
  · have h1 : ¬ offset < 0 := by omega
    have h2 : ¬ (z = true ∧ limit ≠ 0) := by rintro ⟨a, b⟩; exact b (hz a)
    have h3 : ¬ limit < 0 := by omega
    have h4 : ¬ offset > size := by omega
    simp only [hs, if_false, h1, h2, h3, h4, hpres, if_true]
    by_cases he : offset = size
    · simp only [he, if_true]; cases z <;> simp
    · simp [he]

open BR.Proto in
/-- **the empty blob is readable on an empty cache**, plain and compressed -/
theorem empty_blob_read (split : String → List String) (present : String → Int → Bool) (name hash : String) (z : Bool)
    (offset limit : Int) (hp : parseRead (split name) = .ok (hash, 0, z)) :
    readPre split present name offset limit = (if z then .emptyZstd else .empty) := by
  unfold readPre; rw [hp]; simp

open BR.Proto in
/-- **a non-zero `read_limit` is never exceeded**, whatever sizes the blob reader hands out; what is
delivered is a prefix of the reader's output; everything is delivered when it fits; without a
limit everything is delivered -/
theorem read_limit_respected (limit : Int) (hl : 0 ≤ limit) (reads : List Nat) :
    ((sendLoop true limit reads).1 : Int) ≤ limit ∧
    (∃ k, k ≤ reads.length ∧ (sendLoop true limit reads).1 = (reads.take k).sum) ∧
    ((reads.sum : Int) ≤ limit → sendLoop true limit reads = (reads.sum, true)) ∧
    sendLoop false limit reads = (reads.sum, true) := by
  obtain ⟨k, hk, he, _, hle⟩ := sendLoop_prefix true limit reads
  exact ⟨hle rfl hl, ⟨k, hk, he⟩, fun h => sendLoop_all fun _ => h, sendLoop_all nofun⟩

/-! non-vacuity: the toy codec satisfies the laws, and a concrete two-chunk file is conformant -/
example : ToyU.codec.Lawful := ToyU.lawful

example : readRaw ToyU.codec
    (encodeHeader (hdrOf 2 [(ToyU.frame [1, 2], [1, 2]), (ToyU.frame [3], [3])]) ++
      (ToyU.frame [1, 2] ++ ToyU.frame [3])) 3 1 = .ok ([2, 3], true) := by
  decide +kernel

#print axioms raw_read_exact
#print axioms zstd_read_exact
#print axioms write_then_read
#print axioms readers_total
#print axioms size_mismatch_is_error
#print axioms read_within_range_is_served
#print axioms empty_blob_read
#print axioms read_limit_respected
end BR.Props.C02
