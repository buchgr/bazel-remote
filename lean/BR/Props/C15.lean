import BR.Model.Names
import BR.Lemmas.DiskNames
import BR.Lemmas.ListAux
import BR.Bridge.Disk
/-!
# C15 — key spaces are isolated; instance-name mangling separates action results

Model M3/M4: index keys are `LookupKey(kind, hash) = kind ++ "/" ++ hash`, files live under
`<kind>.v2/`, and with mangling enabled the AC key is `TransformActionCacheKey(key, instance)`.
SHA-256 is the opaque `H`; where a theorem needs "no collision among the inputs involved" that is an
explicit hypothesis.
-/
namespace BR.Props.C15
open BR.Disk BR.Names

/-- **the three key spaces never share an index key**: `LookupKey` is injective in (kind, hash) -/
theorem lookupKey_injective (k k' : Kind) (h h' : String) (he : lookupKey k h = lookupKey k' h') :
    k = k' ∧ h = h' := by
  obtain rfl : k = k' := by simpa [kindOfKey_lookupKey] using congrArg kindOfKey he
  refine ⟨rfl, String.ext (List.append_cancel_left (as := (k.str ++ "/").toList) ?_)⟩
  simpa [lookupKey, String.toList_append] using congrArg String.toList he

/-- **and never share a file**: the path of an entry starts with its key space's directory -/
theorem paths_disjoint (k k' : Kind) (hne : k ≠ k') (l l' : Bool) (h h' : String) (s s' : Int) (r r' : String) :
    fileLocation k l h s r ≠ fileLocation k' l' h' s' r' := by
  intro he
  have hhead : ∀ (kk : Kind) (ll : Bool) (hh : String) (ss : Int) (rr : String),
      (fileLocation kk ll hh ss rr).toList.head? = some (match kk with | .ac => 'a' | .cas => 'c' | .raw => 'r') := by
    intro kk ll hh ss rr
    cases kk <;> cases ll <;> simp [fileLocation, String.toList_append]
  have h1 := hhead k l h s r
  have h2 := hhead k' l' h' s' r'
  rw [he, h2] at h1
  cases k <;> cases k' <;> simp at h1 <;> exact hne rfl

/-- an operation on one key never touches the index entry of another key space:
`Lru.get`/`find?` by key only sees elements with that key -/
theorem other_keyspace_untouched (l : BR.Lru.Lru) (k k' : Kind) (h h' : String) (hne : k ≠ k') (e : BR.Lru.Elem)
    (hf : BR.Lru.find? l (lookupKey k h) = some e) : e.key ≠ lookupKey k' h' := by
  have := (BR.ListAux.find?_key BR.Lru.Elem.key _ hf).2
  intro hc
  rw [this] at hc
  exact hne (lookupKey_injective k k' h h' hc).1

/-- **mangling**: with the empty instance name the key is unchanged -/
theorem transform_empty_instance (H : String → String) (key : String) : transformKey H key "" = key := by
  simp [transformKey]

/-- **an ActionResult stored under instance I is found exactly for I**: for non-empty instances and
keys of equal length (64 hex characters), equal mangled keys imply equal (key, instance) — provided
`H` does not collide on the inputs involved. -/
theorem transform_eq_iff (H : String → String) (hH : ∀ x y, H x = H y → x = y) (k k' i i' : String)
    (hlen : k.length = k'.length) (hi : i ≠ "") (hi' : i' ≠ "")
    (he : transformKey H k i = transformKey H k' i') : k = k' ∧ i = i' := by
  simp only [transformKey, hi, hi', if_false] at he
  have h2 := congrArg String.toList (hH _ _ he)
  simp only [String.toList_append] at h2
  obtain ⟨a, b⟩ := List.append_inj h2 (by simpa [String.length_toList] using hlen)
  exact ⟨String.ext a, String.ext b⟩

/-- **never for another instance or for none**: a mangled key differs from the plain key `k'`
unless `H` hits `k'` exactly (excluded by the no-collision hypothesis) -/
theorem transform_nonempty_ne_plain (H : String → String) (k k' i : String) (hi : i ≠ "")
    (hno : H (k ++ i) ≠ k') : transformKey H k i ≠ k' := by
  simp [transformKey, hi, hno]

/-- **HTTP path prefix = gRPC instance_name**: for every instance name `I` and valid hash, the URL
`/I/ac/<hash>` is parsed to key space AC, that hash, and instance `I` (likewise `/I/cas/…`). -/
theorem http_instance_is_prefix (inst hash : String) (hh : hash.toList.length = 64)
    (hx : hash.toList.all isHexLower = true) (hne : inst ≠ "") :
    parseRequestURL ("/" ++ inst ++ "/ac/" ++ hash) = some (.ac, hash, inst) := by
  -- `hne` is not used: `//ac/<hash>` parses to the empty instance in the same way
  unfold parseRequestURL
  simp only [String.toList_append]
  have hcs : ("/".toList ++ inst.toList ++ "/ac/".toList ++ hash.toList).length - 64
      = ("/".toList ++ inst.toList ++ "/ac/".toList).length := by
    simp only [List.length_append, hh]; omega
  have hlen : ¬ (("/".toList ++ inst.toList ++ "/ac/".toList ++ hash.toList).length < 64) := by
    simp only [List.length_append, hh]; omega
  simp only [hlen, if_false, hcs, List.drop_left' rfl, List.take_left' rfl, hx, Bool.not_true, Bool.false_eq_true]
  have hpre : "/".toList ++ inst.toList ++ "/ac/".toList = ('/' :: inst.toList) ++ ['/', 'a', 'c', '/'] := by
    simp
  rw [hpre]
  have hnc : ("cas/".toList.isSuffixOf (('/' :: inst.toList) ++ ['/', 'a', 'c', '/'])) = false := by
    simp [List.isSuffixOf, List.reverse_append, List.isPrefixOf]
  have hac : ("ac/".toList.isSuffixOf (('/' :: inst.toList) ++ ['/', 'a', 'c', '/'])) = true := by
    simp [List.isSuffixOf, List.reverse_append, List.isPrefixOf]
  simp only [hnc, hac, Bool.false_eq_true, if_false, if_true]
  have htake : (('/' :: inst.toList) ++ ['/', 'a', 'c', '/']).take ((('/' :: inst.toList) ++ ['/', 'a', 'c', '/']).length - 3)
      = ('/' :: inst.toList) ++ ['/'] := by
    have : (('/' :: inst.toList) ++ ['/', 'a', 'c', '/']) = (('/' :: inst.toList) ++ ['/']) ++ ['a', 'c', '/'] := by simp
    rw [this, List.length_append]
    simp only [List.length_cons, List.length_nil, Nat.add_sub_cancel]
    exact List.take_left' rfl
  rw [htake]
  simp only [List.cons_append]
  have hne2 : ¬ (inst.toList ++ ['/'] = []) := by simp
  simp only [hne2, if_false, List.getLast?_append, List.getLast?_singleton, Option.some_or, if_true,
    List.dropLast_concat, String.ofList_toList]

/-- the key-space directory names and `LookupKey` as regenerated from the source -/
theorem names_source : BR.Gen.LookupKey = ["=> kind.String() + \"/\" + hash"] := by rfl

example : parseRequestURL "/my/inst/ac/aaaaaaaaaaaaaaaaaaaaaaaaaaaaaaaaaaaaaaaaaaaaaaaaaaaaaaaaaaaaaaaa"
    = some (.ac, "aaaaaaaaaaaaaaaaaaaaaaaaaaaaaaaaaaaaaaaaaaaaaaaaaaaaaaaaaaaaaaaa", "my/inst") := by decide +kernel
example : parseRequestURL "cas/aaaaaaaaaaaaaaaaaaaaaaaaaaaaaaaaaaaaaaaaaaaaaaaaaaaaaaaaaaaaaaaa"
    = some (.cas, "aaaaaaaaaaaaaaaaaaaaaaaaaaaaaaaaaaaaaaaaaaaaaaaaaaaaaaaaaaaaaaaa", "") := by decide +kernel
example : parseRequestURL "/xac/aaaaaaaaaaaaaaaaaaaaaaaaaaaaaaaaaaaaaaaaaaaaaaaaaaaaaaaaaaaaaaaa" = none := by decide +kernel

#print axioms lookupKey_injective
#print axioms paths_disjoint
#print axioms other_keyspace_untouched
#print axioms transform_empty_instance
#print axioms transform_eq_iff
#print axioms transform_nonempty_ne_plain
#print axioms http_instance_is_prefix
end BR.Props.C15
