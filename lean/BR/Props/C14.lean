import BR.Lemmas.BlobParse
import BR.Props.C16
import BR.Props.C11
import BR.Bridge.Blob
/-!
# C14 — no request can crash the server, hang a handler or leave resources behind (partial)

What the models can carry:
* the casblob readers are total on **every** byte string that can be on disk or come from a back
  end (`readers_total`): no division by zero, index out of range or negative `make`;
* the resource-name parsers are total on every name (`parsers_total`);
* the validator and the dependency walk handle absent sub-messages (`nil` = `none`) everywhere
  (`validator_handles_nil`, model M8 uses `Option` for every Go pointer);
* `GetTree`'s directory walk skips child nodes without a digest (`walk_total`);
* ByteStream.Write answers every message sequence, including the empty one (`write_total`);
* no reservation, temp file or index entry survives a failed request (C03/C04: `BR.Props.C04`).

**Partial**: panics inside third-party decoders, memory exhaustion (e.g. `DecodeAll` of a
compression bomb), descriptor leaks at OS level and real-time hangs cannot be exhibited by an
executable model; the goroutine life cycle of the Write / SpliceBlob pipelines is checked by the
harness oracle (goroutines with bazel-remote frames after quiescence), not proved.
-/
namespace BR.Props.C14
open BR.CasBlob

/-- **stored or back-end supplied bytes never crash a reader** -/
theorem readers_total (C : Codec) (file : Bytes) (exp off : Int) :
    readRaw C file exp off ≠ .panic ∧ readZstd C file exp off ≠ .panic := readers_never_panic C file exp off

/-- `readHeader` itself is total and rejects every header the readers could not handle: a parsed
zstd header has a positive chunk size, a positive size and exactly the chunk count that size needs -/
theorem parsed_header_is_safe {file : Bytes} {h : Header} (hp : parseHeader file = .ok h) :
    2 ≤ h.chunkOffsets.length ∧ increasingFrom (-1) h.chunkOffsets = true ∧
    (h.compression = 1 → h.chunkSize ≠ 0 ∧ 0 < h.uncompressedSize ∧
      numChunksFor h.uncompressedSize h.chunkSize = (h.chunkOffsets.length : Int) - 1) :=
  have p := parseHeader_ok_iff.mp hp
  ⟨p.n2, p.inc, p.zstd⟩

/-- **no resource name crashes a parser** -/
theorem parsers_total (fields : List String) :
    BR.Proto.parseWrite fields ≠ .panic ∧ BR.Proto.parseRead fields ≠ .panic :=
  BR.Props.C16.parsers_never_panic fields

/-- **ByteStream.Write answers every message sequence** (success or an error status), in
particular the empty stream and streams that stop after any prefix -/
theorem write_total (split : String → List String) (maxBlob : Int) (present : String → Int → Bool)
    (putOK : Bool) (msgs : List BR.Proto.WMsg) :
    (∃ c, BR.Proto.writeRPC split maxBlob present putOK msgs = .ok c) ∨
      BR.Proto.writeRPC split maxBlob present putOK msgs = .err := by
  cases h : BR.Proto.writeRPC split maxBlob present putOK msgs with
  | ok c => exact Or.inl ⟨c, rfl⟩
  | err => exact Or.inr rfl

/-- **absent sub-messages are handled**: a nil output file / directory / symlink element, a file
without digest, a directory without tree digest are validation errors, never a dereference -/
theorem validator_handles_nil :
    BR.AC.checkFile none = some .nilFile ∧ BR.AC.checkDir none = some .nilDir ∧
    BR.AC.checkSymlink none = some .nilSymlink ∧ BR.AC.checkDigest none = none ∧
    (∀ p c, p ≠ "" → BR.AC.isAbs p = false → BR.AC.checkFile (some ⟨p, none, c⟩) = some .nilDigest) ∧
    (∀ p, BR.AC.isAbs p = false → BR.AC.checkDir (some ⟨p, none⟩) = some .nilTreeDigest) := by
  refine ⟨rfl, rfl, rfl, rfl, ?_, ?_⟩
  · intro p c hp ha; simp [BR.AC.checkFile, hp, ha]
  · intro p ha; simp [BR.AC.checkDir, ha]

/-- a stored `Directory`: child nodes may lack a digest (the blob is not validated when stored) -/
structure DirMsg where
  children : List (Option String)     -- digest (as a key into the store) of each DirectoryNode

/-- `fillDirectories`: `store` maps a digest to the decoded Directory (or `none`: absent, not a
Directory, bad hash); `fuel` bounds the depth (content addressing rules out cycles).  Returns the
number of directories appended; `none` would be a crash. -/
def walk (store : String → Option DirMsg) : Nat → DirMsg → Option Nat
  | 0, _ => some 1
  | fuel + 1, d =>
    d.children.foldl (fun acc ch =>
      match acc, ch with
      | none, _ => none
      | some n, none => some n                       -- node without a digest: skipped (fix for F5)
      | some n, some k =>
        match store k with
        | none => some n                             -- missing / undecodable blob: skipped
        | some sub => (walk store fuel sub).map (· + n)) (some 1)

/-- **the walk never crashes**, whatever the stored blobs look like -/
theorem walk_total (store : String → Option DirMsg) : ∀ (fuel : Nat) (d : DirMsg), (walk store fuel d).isSome := by
  intro fuel
  induction fuel with
  | zero => intro d; rfl
  | succ fu ih =>
    intro d
    rw [walk]
    -- the count stays defined across the fold over the children
    refine List.foldlRecOn (motive := fun acc : Option Nat => acc.isSome = true) _ _ rfl ?_
    intro acc hacc ch _
    obtain ⟨n, rfl⟩ := Option.isSome_iff_exists.mp hacc
    cases ch with
    | none => rfl
    | some k =>
      cases hs : store k with
      | none => simp [hs]
      | some sub =>
        obtain ⟨v, hv⟩ := Option.isSome_iff_exists.mp (ih sub)
        simp [hs, hv]

/-! non-vacuity: the first child is walked (its own child has no digest), the second has no digest,
the third's blob is missing: the root and one directory are counted -/
example : (walk (fun k => if k = "x" then some ⟨[none]⟩ else none) 3 ⟨[some "x", none, some "y"]⟩) = some 2 := by
  decide

#print axioms readers_total
#print axioms parsed_header_is_safe
#print axioms parsers_total
#print axioms write_total
#print axioms validator_handles_nil
#print axioms walk_total
end BR.Props.C14
