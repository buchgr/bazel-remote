import BR.Lemmas.BlobWrite
import BR.Props.C09
/-!
# C08 — kill at any point and restart (partial)

What the models carry:

* **compressed CAS uploads** (`WriteAndClose`, model M2): the file images that can exist at a kill
  are exactly `images` of the model — the zero-table header alone, then one more frame per chunk,
  then (only if every check passed) the final image with the real chunk table.  Every image but the
  final one is refused by `readHeader`, so both readers fail on it and the entry is dropped: the
  upload is afterwards *absent or complete* (`interrupted_compressed_upload_absent_or_complete`),
  for every blob size, chunk size and stream.
* **restart on any image** (model M6 over M1): whatever files the kill left — torn, duplicate,
  oversize — the rebuilt index satisfies the accounting invariant and every file stays tracked
  (`restart_on_any_image`), and with distinct keys the survivors are the newest that fit (C09).
* **raw files** (AC, RAW, CAS in uncompressed mode) are written in place under their final name and
  carry no length or checksum, so the loader adopts a torn prefix with the prefix length as its
  size (`torn_raw_file_is_adopted`).  A read that states the size refuses it (size mismatch), a
  read with unknown size serves it.  This is the known finding F16 (DESIGN.md §6), exhibited on the
  real code by the crash harness.

**Partial**: page-cache / fsync behaviour at power loss, directory-entry durability and the kill
itself are runtime behaviour; the harness takes file-system images from inside the upload stream
and at the verif gates, which is process-kill semantics.
-/
namespace BR.Props.C08
open BR.CasBlob

/-- **an upload in flight at the kill is afterwards absent or complete** (compressed CAS): for
every image the file can have at a kill, either it is the final image of a successful
`WriteAndClose`, or no reader returns anything for it — with known or unknown size, at any offset,
compressed or not. -/
theorem interrupted_compressed_upload_absent_or_complete (C : Codec) (H : Bytes → String) (cs : Nat)
    (hcs2 : cs < 4294967296) (s : Stream) (size : Int) (hash : String)
    (hs : 0 < size ∧ size < 9223372036854775808)
    (hfit : 8 * ((wantLens size.toNat cs).length + 1) + 21 < 4294967296) :
    ∀ img ∈ (writeAndClose C H cs s size hash).images,
      ((∃ n, (writeAndClose C H cs s size hash).result = .ok n) ∧
        (writeAndClose C H cs s size hash).images.getLast? = some img) ∨
      (∀ exp off, (∀ x, readRaw C img exp off ≠ .ok x) ∧ (∀ x, readZstd C img exp off ≠ .ok x)) := by
  have hrej : ∀ img ∈ partialImages C cs s size, ∀ exp off,
      (∀ x, readRaw C img exp off ≠ .ok x) ∧ (∀ x, readZstd C img exp off ≠ .ok x) :=
    fun img h exp off => readers_fail_without_header C (partialImages_rejected C hcs2 s hs hfit img h) exp off
  rcases writeAndClose_cases C H cs s size hash with ⟨_, hw⟩ | ⟨_, e, hw⟩ <;> rw [hw] <;> intro img himg
  · rcases List.mem_append.mp himg with h | h
    · exact Or.inr (hrej img h)
    · exact Or.inl ⟨⟨_, rfl⟩, by rw [List.mem_singleton.mp h]; exact List.getLast?_concat⟩
  · rw [if_neg (by omega)] at himg
    exact Or.inr (hrej img himg)

/-- **the complete image is served with identical content** at every offset -/
theorem completed_upload_served_identically (C : Codec) (hl : C.Lawful) (H : Bytes → String) (cs : Nat) (hcs : 0 < cs)
    (hcs2 : cs < 4294967296) (s : Stream) (size : Int) (hash : String)
    (hok : 0 < size ∧ s.fault = false ∧ (s.data.length : Int) = size ∧ H s.data = hash)
    (hsize : size < 9223372036854775808) (final : Bytes)
    (hlast : (writeAndClose C H cs s size hash).images.getLast? = some final)
    (hlen : (final.length : Int) < 9223372036854775808)
    (hfit : 8 * ((wantLens size.toNat cs).length + 1) + 21 < 4294967296)
    (off : Nat) (hoff : off < s.data.length) :
    readRaw C final (-1) (off : Int) = .ok (s.data.drop off, true) :=
  written_readRaw C hl H hcs hcs2 hok hsize hlast hlen hfit off hoff (-1) (Or.inl rfl)

/-- **restart on any image**: whatever set of (parsable) files the kill left behind — including
torn ones, duplicates of a key and files larger than `max_size` — the rebuilt index satisfies the
accounting invariant of C03 and no file is lost track of. -/
theorem restart_on_any_image (M H : Int) (h0 : 0 ≤ M) (h1 : M < 9223372036854775808) (fs : List BR.Load.Scanned)
    (hv : ∀ f ∈ fs, 0 ≤ f.item.sizeOnDisk ∧ 0 ≤ f.item.size) :
    BR.Lru.Inv (BR.Load.load M H fs).1 ∧
    (BR.Lru.tracked (BR.Load.loadSorted M H (BR.Load.sortByAtime fs)).1 ++
      (BR.Load.loadSorted M H (BR.Load.sortByAtime fs)).2.map BR.Load.pairOf).Perm (fs.map BR.Load.pairOf) :=
  ⟨BR.Props.C09.restart_accounting M H h0 h1 fs hv, BR.Props.C09.restart_tracks_every_file M H h0 h1 fs hv⟩

/-- **a torn raw file is adopted** (F16): a file whose name carries no size (AC, RAW, `.v1` CAS) is
indexed with its current length as its size, whatever that length is — the loader cannot tell a
prefix left by a kill from a complete entry. -/
theorem torn_raw_file_is_adopted (f : BR.Load.DirFile) (p : BR.Load.ParsedName)
    (hp : BR.Load.parseName (BR.Load.migratedName f) = some p) (hn : p.size = none) :
    ∃ sc, BR.Load.scanOne f = some sc ∧ sc.item.size = f.length ∧ sc.item.sizeOnDisk = f.length :=
  ⟨_, BR.Load.scanOne_eq hp, by simp [hn], rfl⟩

/-- **a compressed CAS file is indexed with the size stated in its name**, not with its length as a
raw file is (`torn_raw_file_is_adopted`), so a reader that knows the digest size and the header check
of `interrupted_compressed_upload_absent_or_complete` both apply -/
theorem compressed_file_size_from_name (f : BR.Load.DirFile) (p : BR.Load.ParsedName) (n : Int)
    (hp : BR.Load.parseName (BR.Load.migratedName f) = some p) (hn : p.size = some n) :
    ∃ sc, BR.Load.scanOne f = some sc ∧ sc.item.size = n :=
  ⟨_, BR.Load.scanOne_eq hp, by simp [hn]⟩

/-- **an interrupted overwrite wins at restart** (F22): two files for one key, the complete
acknowledged one (older access time) and the torn one of the interrupted upload (newer): the loader
indexes the torn file and hands the complete one to the remover -/
example :
    let old : BR.Load.Scanned := ⟨"cas/k", ⟨100, 60, "old", false⟩, 10⟩
    let torn : BR.Load.Scanned := ⟨"cas/k", ⟨100, 45, "new", false⟩, 20⟩
    let r := BR.Load.loadSorted 1048576 0 [old, torn]
    (BR.Load.pairs r.1).map (fun p => p.2.random) = ["new"] ∧ r.1.queue.map (fun p => p.2.random) = ["old"] := by
  decide

#print axioms interrupted_compressed_upload_absent_or_complete
#print axioms completed_upload_served_identically
#print axioms restart_on_any_image
#print axioms torn_raw_file_is_adopted
#print axioms compressed_file_size_from_name
end BR.Props.C08
