import BR.Lemmas.Config
/-!
# C19 — flags, environment variables and YAML agree; invalid set-ups are refused at start

Model M12 (`BR.Config`).  The field tables are computed from the regenerated tables
`BR.Gen.config` (flag table of `GetCliFlags`, wiring of `get`/`newFromArgs`, yaml tags, defaults of
`NewFromYaml`), so the table facts below are re-proved against the current source on
every run.  Environment variables enter through the same flag definitions (`EnvVars`), i.e. through
`fromFlags`.
-/
namespace BR.Props.C19
open BR.Config

/-- One conjunction under one `decide`, so that the kernel evaluates `allFDs` (string-keyed look-ups
into the regenerated tables) once for all three parts instead of once per part. -/
theorem table_checked :
    allFDs.all (fun fd => !fd.good || fd.typed) = true ∧
    (allFDs.filter (fun fd => !fd.good)).map (fun fd => (fd.owner, fd.field)) =
      [("LDAP", "CacheTime")] ∧
    (allFDs.filter (fun fd => !fd.sameDefault)).map (fun fd => (fd.owner, fd.field)) =
      [("Config", "MaxSizeHardLimit"), ("YamlConfig", "Port"), ("YamlConfig", "GRPCPort"), ("YamlConfig", "ProfileHost"),
       ("S3CloudStorage", "BucketLookupType"), ("S3CloudStorage", "AWSProfile"), ("LDAP", "UsernameAttribute")] := by
  decide +kernel

theorem good_row {fd : FD} (hm : fd ∈ allFDs) (hg : fd.good = true) : Wired fd := by
  have ht : fd.typed = true := by simpa [hg] using List.all_eq_true.mp table_checked.1 fd hm
  simp only [FD.good, FD.typed, Bool.and_eq_true, beq_iff_eq] at hg ht
  exact ⟨hg.1.symm, hg.2, ht.1, ht.2⟩

/-- **the one setting that is not expressible in both syntaxes** (see DESIGN.md): `ldap.cache_time`
is an integer flag (seconds) read with `ctx.Duration`, while the YAML key is a `time.Duration`
that refuses a bare integer.  Every other field is fed by the flag and the yaml key of the same
name through a compatible accessor. -/
theorem not_good_pinned :
    (allFDs.filter (fun fd => !fd.good)).map (fun fd => (fd.owner, fd.field)) =
      [("LDAP", "CacheTime")] := table_checked.2.1

/-- **the settings whose default differs between the front ends when omitted**: the listener
defaults named in the property (port 8080 / grpc_port 9092 / profile_host 127.0.0.1 exist only on
the command line) and four others that select the same behaviour (hard limit off, S3 bucket lookup
"auto", AWS profile "default", LDAP attribute "uid") -/
theorem default_diff_pinned :
    (allFDs.filter (fun fd => !fd.sameDefault)).map (fun fd => (fd.owner, fd.field)) =
      [("Config", "MaxSizeHardLimit"), ("YamlConfig", "Port"), ("YamlConfig", "GRPCPort"), ("YamlConfig", "ProfileHost"),
       ("S3CloudStorage", "BucketLookupType"), ("S3CloudStorage", "AWSProfile"), ("LDAP", "UsernameAttribute")] :=
  table_checked.2.2

/-- **the assignments the property quantifies over**: typed values; the two settings that are not
expressible identically are not given; the settings whose omitted default differs are given
explicitly (for a section: when the section is used); a YAML section is written iff the
command line names the section's key setting (`--s3.bucket`, `--http_proxy.url`, …). -/
structure Comparable (a : Assign) : Prop where
  typed : ∀ k v, a.get k = some v → kindMatches (flagKind k) v = true
  excluded : ∀ fd ∈ allFDs, fd.good = false → a.get fd.key = none ∧ a.get fd.ykey = none
  explicit : ∀ fd ∈ allFDs, fd.sameDefault = false → ownerActive a fd.owner = true → a.given fd.key = true
  sections : ∀ o ∈ sectionOwners, yamlPresent a o = flagsPresent a o

theorem comparable_of_check {a : Assign} (h : comparableB a = true) : Comparable a := by
  simp only [comparableB, Bool.and_eq_true, List.all_eq_true] at h
  obtain ⟨⟨⟨h1, h2⟩, h3⟩, h4⟩ := h
  refine ⟨fun k v hget => h1 (k, v) (Assign.mem_of_get hget), ?_, ?_, ?_⟩
  · intro fd hm hg
    simpa [hg] using h2 fd hm
  · intro fd hm hs hact
    simpa [hs, hact] using h3 fd hm
  · intro o ho
    simpa using h4 o ho

/-- A given setting belongs to a well-wired row and arrives unchanged on both sides.  An absent one
is absent under both names and leaves the two defaults; they are equal, or the row had to be given. -/
theorem agree_of_mem {a : Assign} (hC : Comparable a) {fd : FD} (hm : fd ∈ allFDs)
    (hact : ownerActive a fd.owner = true) : flagsVal a fd = yamlVal a fd := by
  cases hget : a.get fd.key with
  | some v =>
    cases hg : fd.good with
    | false => rw [(hC.excluded fd hm hg).1] at hget; cases hget
    | true =>
      have w := good_row hm hg
      rw [w.flagsVal_of_some hget (hC.typed _ _ hget), w.yamlVal_of_some hget]
  | none =>
    have hy : a.get fd.ykey = none := by
      cases hg : fd.good with
      | false => exact (hC.excluded fd hm hg).2
      | true => rw [(good_row hm hg).ykey, hget]
    rw [flagsVal_of_none hget, yamlVal_of_none hy]
    cases hs : fd.sameDefault with
    | true => simpa [FD.sameDefault] using hs
    | false =>
      have := hC.explicit fd hm hs hact
      simp [Assign.given, hget] at this

/-- **flags (and environment variables) and YAML yield the identical configuration** for every
comparable assignment of explicitly given settings -/
theorem flags_yaml_agree (itoa : Int → String) (a : Assign) (hC : Comparable a) :
    fromFlags itoa a = fromYaml itoa a :=
  entries_congr itoa (fun o ho => (hC.sections o ho).symm)
    (fun _ h => agree_of_mem hC (mem_allFDs.mpr (.inl h)) (by simp [ownerActive, owner_of_mem_wiredFDs h]))
    (fun _ h => agree_of_mem hC (mem_allFDs.mpr (.inr (.inl h)))
      (by rcases owner_of_mem_addrFDs h with ho | ho <;> simp [ownerActive, ho]))
    (fun _ ho hp _ h => agree_of_mem hC (mem_allFDs.mpr (.inr (.inr ⟨_, ho, h⟩)))
      (by simp [ownerActive, owner_of_mem_sectionFDs h, hp]))

theorem yaml_decodes {a : Assign} (hC : Comparable a) : yamlDecodeBad a = false := by
  unfold yamlDecodeBad
  rw [List.any_eq_false]
  intro fd hm
  cases hget : a.get fd.ykey with
  | none => simp
  | some v =>
    cases hg : fd.good with
    | false => rw [(hC.excluded fd hm hg).2] at hget; cases hget
    | true =>
      have w := good_row hm hg
      rw [w.ykey] at hget
      simp [yamlFits_of_typeFits w.fits (w.kind ▸ hC.typed _ _ hget)]

/-- **the same start-up verdict and the same effective configuration** on both paths: a comparable
assignment decodes as YAML (`yaml_decodes`), and what is then validated is the one configuration of
`flags_yaml_agree` -/
theorem start_agrees (itoa : Int → String) (a : Assign) (hC : Comparable a) :
    startFlags itoa a = startYaml itoa a := by
  unfold startFlags startYaml
  rw [flags_yaml_agree itoa a hC, yaml_decodes hC]
  simp

/-- each explicitly given, well-typed, wired setting arrives in its field unchanged on both paths
(no assumption on the other settings) -/
theorem explicit_setting_same (a : Assign) (fd : FD) (hm : fd ∈ allFDs) (hg : fd.good = true) (v : Val)
    (hget : a.get fd.key = some v) (ht : kindMatches (flagKind fd.key) v = true) :
    flagsVal a fd = v ∧ yamlVal a fd = v :=
  have w := good_row hm hg
  ⟨w.flagsVal_of_some hget ht, w.yamlVal_of_some hget⟩

/-! ### the invalid classes of the property, each for arbitrary values of all other settings -/

theorem missing_dir_rejected (v : VCfg) (h : v.dir = "") : (validate v).isSome = true :=
  rejects_at 0 "dir" rfl v (by simp [h])

theorem missing_max_size_rejected (v : VCfg) (h : v.maxSize ≤ 0) : (validate v).isSome = true :=
  rejects_at 1 "max_size" rfl v (by simpa using h)

theorem unknown_storage_mode_rejected (v : VCfg) (h1 : v.storageMode ≠ "zstd") (h2 : v.storageMode ≠ "uncompressed") :
    (validate v).isSome = true :=
  rejects_at 2 "storage_mode" rfl v (by simp [h1, h2])

theorem unknown_zstd_implementation_rejected (v : VCfg) (h1 : v.zstdImpl ≠ "go") (h2 : v.zstdImpl ≠ "cgo") :
    (validate v).isSome = true :=
  rejects_at 3 "zstd_implementation" rfl v (by simp [h1, h2])

theorem two_proxies_rejected (v : VCfg) (h : proxyCount v > 1) : (validate v).isSome = true :=
  rejects_at 4 "proxy_count" rfl v (by simpa using h)

theorem malformed_http_address_rejected (v : VCfg) (hu : isUnix v.httpAddress = false)
    (h : splitHostPort v.httpAddress = none) : (validate v).isSome = true :=
  rejects_at 5 "http_address" rfl v (by simp [hu, h])

theorem empty_unix_http_address_rejected (v : VCfg) (hu : isUnix v.httpAddress = true)
    (h : unixPath v.httpAddress = []) : (validate v).isSome = true :=
  rejects_at 5 "http_address" rfl v (by simp [hu, h])

theorem malformed_grpc_address_rejected (v : VCfg) (hl : grpcListens v = true) (hu : isUnix v.grpcAddress = false)
    (h : splitHostPort v.grpcAddress = none) : (validate v).isSome = true :=
  rejects_at 6 "grpc_address" rfl v (by simp [hl, hu, h])

theorem same_port_rejected (v : VCfg) (hl : grpcListens v = true) (hu1 : isUnix v.httpAddress = false)
    (hu2 : isUnix v.grpcAddress = false) (h1 h2 p : String)
    (hh : splitHostPort v.httpAddress = some (h1, p)) (hg : splitHostPort v.grpcAddress = some (h2, p)) (hp : p ≠ "") :
    (validate v).isSome = true :=
  rejects_at 7 "port_conflict" rfl v (by simp [portConflict, hl, hu2, httpPort?, hu1, hh, hg, hp])

theorem half_tls_rejected (v : VCfg) (h : (v.tlsCert ≠ "" ∧ v.tlsKey = "") ∨ (v.tlsCert = "" ∧ v.tlsKey ≠ "")) :
    (validate v).isSome = true :=
  rejects_at 10 "tls_half" rfl v (by rcases h with ⟨a, b⟩ | ⟨a, b⟩ <;> simp [a, b])

theorem mtls_without_server_cert_rejected (v : VCfg) (hca : v.tlsCa ≠ "") (h : v.tlsCert = "" ∨ v.tlsKey = "") :
    (validate v).isSome = true :=
  rejects_at 11 "mtls_without_server_cert" rfl v (by rcases h with h | h <;> simp [hca, h])

theorem unauthenticated_reads_without_auth_rejected (v : VCfg) (h : v.allowUnauthReads = true)
    (h1 : v.tlsCa = "") (h2 : v.htpasswd = "") (h3 : v.ldap = none) : (validate v).isSome = true :=
  rejects_at 12 "unauthenticated_reads_without_auth" rfl v (by simp [h, h1, h2, h3])

theorem nonpositive_max_blob_size_rejected (v : VCfg) (h : v.maxBlob ≤ 0) : (validate v).isSome = true :=
  rejects_at 13 "max_blob_size" rfl v (by simpa using h)

theorem nonpositive_max_proxy_blob_size_rejected (v : VCfg) (h : v.maxProxyBlob ≤ 0) : (validate v).isSome = true :=
  rejects_at 14 "max_proxy_blob_size" rfl v (by simpa using h)

theorem remote_asset_without_grpc_rejected (v : VCfg) (h1 : v.grpcAddress = "none") (h2 : v.remoteAsset = true) :
    (validate v).isSome = true :=
  rejects_at 9 "remote_asset_needs_grpc" rfl v (by simp [h1, h2])

/-- a configuration is accepted exactly when no test fires -/
theorem accepted_iff (v : VCfg) : validate v = none ↔ ∀ c ∈ checks, c.2 v = false := by
  simp [validate]

def sampleAssign : Assign :=
  [(("", "dir"), .s "/data"), (("", "max_size"), .i 5), (("", "max_size_hard_limit"), .i 6),
   (("", "port"), .i 8080), (("", "grpc_port"), .i 9092), (("", "profile_host"), .s ""),
   (("", "tls_cert_file"), .s "c.pem"), (("", "tls_key_file"), .s "k.pem"),
   (("http_proxy", "url"), .s "https://backend/x"), (("", "idle_timeout"), .d 1000000000)]

example : comparableB sampleAssign = true := by decide +kernel
def itoa2 (n : Int) : String := if n = 8080 then "8080" else "9092"
example : (fromFlags itoa2 sampleAssign == fromYaml itoa2 sampleAssign) = true := by decide +kernel
example : (startFlags itoa2 sampleAssign).isSome = true := by decide +kernel
example : (startYaml itoa2 (sampleAssign ++ [(("gcs_proxy", "bucket"), .s "b")])).isSome = false := by decide +kernel

#print axioms flags_yaml_agree
#print axioms start_agrees
#print axioms explicit_setting_same
#print axioms not_good_pinned
#print axioms default_diff_pinned
#print axioms missing_dir_rejected
#print axioms missing_max_size_rejected
#print axioms unknown_storage_mode_rejected
#print axioms unknown_zstd_implementation_rejected
#print axioms two_proxies_rejected
#print axioms malformed_http_address_rejected
#print axioms empty_unix_http_address_rejected
#print axioms malformed_grpc_address_rejected
#print axioms same_port_rejected
#print axioms half_tls_rejected
#print axioms mtls_without_server_cert_rejected
#print axioms unauthenticated_reads_without_auth_rejected
#print axioms nonpositive_max_blob_size_rejected
#print axioms nonpositive_max_proxy_blob_size_rejected
#print axioms remote_asset_without_grpc_rejected
#print axioms accepted_iff
end BR.Props.C19
