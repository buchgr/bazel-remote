import BR.Lemmas.Load
/-!
# C09 — restart keeps what fits and evicts the oldest first

Model M6 (`BR.Load`): the files found in the directory (after migration of the old layouts and
parsing of their names) are sorted by access time and inserted into an empty index with
`SizedLRU.Add` (model M1), oldest first; files `Add` refuses (larger than `max_size`) are removed.

Main result (`restart_keeps_newest_that_fit`): for every population of files with distinct keys
and every `max_size`, the index after the restart is exactly the **longest most recently accessed
tail, in access-time order, of the files that individually fit**, whose accounted size is within
`max_size`; everything else has been removed from the directory; the accounting invariant of C03
holds.  Later evictions continue in that order (C05: `Add`/`Reserve` evict `order.take n`).
-/
namespace BR.Props.C09
open BR.Load BR.Lru

theorem sort_sorted (fs : List Scanned) : (sortByAtime fs).Pairwise (fun a b => a.atime ≤ b.atime) := by
  refine (List.pairwise_mergeSort ?_ ?_ fs).imp of_decide_eq_true
  · intro a b c; simp only [decide_eq_true_eq]; omega
  · intro a b; simp only [Bool.or_eq_true, decide_eq_true_eq]; omega

/-- **Restart keeps the newest files that fit, evicts oldest first, accounting matches** -/
theorem restart_keeps_newest_that_fit (M H : Int) (h0 : 0 ≤ M) (h1 : M < 9223372036854775808)
    (fs : List Scanned) (hnd : (fs.map (·.key)).Nodup)
    (hv : ∀ f ∈ fs, 0 ≤ f.item.sizeOnDisk ∧ 0 ≤ f.item.size) :
    let S := sortByAtime fs
    let r := load M H fs
    Inv r.1 ∧ r.1.res = 0 ∧ r.1.queue = [] ∧
    r.2 = S.filter (fun f => !fits M f) ∧
    ∃ n, n ≤ (L M S).length ∧ pairs r.1 = (L M S).drop n ∧
      (∀ j, j < n → sumP ((L M S).drop j) > M) ∧ sumP ((L M S).drop n) ≤ M := by
  have h := loadSorted_inv H h0 h1 (((sortByAtime_perm fs).map _).nodup_iff.mpr hnd)
    fun f hf => hv f (mem_sortByAtime.mp hf)
  -- `load` only empties the removal queue on top of `loadSorted`
  exact ⟨inv_drainAll h.inv, h.res0, rfl, h.removed, h.shape⟩

/-- **every entry is kept when the directory fits**: nothing is evicted or removed, every key is
present with its size, in access-time order -/
theorem restart_keeps_everything_when_it_fits (M H : Int) (h0 : 0 ≤ M) (h1 : M < 9223372036854775808)
    (fs : List Scanned) (hnd : (fs.map (·.key)).Nodup)
    (hv : ∀ f ∈ fs, 0 ≤ f.item.sizeOnDisk ∧ 0 ≤ f.item.size)
    (hfit : sumP (fs.map pairOf) ≤ M) :
    pairs (load M H fs).1 = (sortByAtime fs).map pairOf ∧ (load M H fs).2 = [] := by
  obtain ⟨_, _, _, hrem, hshape⟩ := restart_keeps_newest_that_fit M H h0 h1 fs hnd hv
  have hsum : sumP ((sortByAtime fs).map pairOf) ≤ M := sumP_perm ((sortByAtime_perm fs).map _) ▸ hfit
  have hnn : ∀ p ∈ (sortByAtime fs).map pairOf, 0 ≤ p.2.sizeOnDisk := fun p hp => by
    obtain ⟨g, hg, rfl⟩ := List.mem_map.mp hp
    exact (hv g (mem_sortByAtime.mp hg)).1
  -- each file is at most the sum, so each fits and `L` filters nothing out
  have hall : ∀ f ∈ sortByAtime fs, fits M f = true := fun f hf => by
    have := mem_le_sumP hnn (List.mem_map_of_mem (f := pairOf) hf)
    simp only [fits, decide_eq_true_eq]
    exact Int.le_trans this hsum
  rw [L_eq_map hall] at hshape
  refine ⟨FitTail.eq_self hshape hsum, ?_⟩
  rw [hrem, List.filter_eq_nil_iff]
  intro f hf
  simp [hall f hf]

/-- **the accounting invariant holds after every restart**, duplicates or not -/
theorem restart_accounting (M H : Int) (h0 : 0 ≤ M) (h1 : M < 9223372036854775808) (fs : List Scanned)
    (hv : ∀ f ∈ fs, 0 ≤ f.item.sizeOnDisk ∧ 0 ≤ f.item.size) : Inv (load M H fs).1 :=
  inv_drainAll (loadSorted_tracked H h0 h1 fun f hf => hv f (mem_sortByAtime.mp hf)).1

/-- **no file is lost track of**: every scanned file is afterwards either indexed, or was handed to
the remover (overwritten duplicate / evicted), or was removed because it does not fit -/
theorem restart_tracks_every_file (M H : Int) (h0 : 0 ≤ M) (h1 : M < 9223372036854775808) (fs : List Scanned)
    (hv : ∀ f ∈ fs, 0 ≤ f.item.sizeOnDisk ∧ 0 ≤ f.item.size) :
    (tracked (loadSorted M H (sortByAtime fs)).1 ++ (loadSorted M H (sortByAtime fs)).2.map pairOf).Perm
      (fs.map pairOf) :=
  (loadSorted_tracked H h0 h1 fun f hf => hv f (mem_sortByAtime.mp hf)).2.trans ((sortByAtime_perm fs).map pairOf)

/-- names produced by this release parse back to their parts (compressed CAS, legacy CAS, AC/RAW) -/
example : parseName "0123456789abcdef0123456789abcdef0123456789abcdef0123456789abcdef-4096-ab12CD" =
    some ⟨"0123456789abcdef0123456789abcdef0123456789abcdef0123456789abcdef", some 4096, "ab12CD", false⟩ := by decide +kernel
example : parseName "0123456789abcdef0123456789abcdef0123456789abcdef0123456789abcdef-556677.v1" =
    some ⟨"0123456789abcdef0123456789abcdef0123456789abcdef0123456789abcdef", none, "556677", true⟩ := by decide +kernel
example : parseName "0123456789abcdef0123456789abcdef0123456789abcdef0123456789abcdef-112233" =
    some ⟨"0123456789abcdef0123456789abcdef0123456789abcdef0123456789abcdef", none, "112233", false⟩ := by decide +kernel
example : parseName "0123456789abcdef0123456789abcdef0123456789abcdef0123456789abcdef" = none := by decide +kernel

/-! non-vacuity: three files, the oldest does not survive a smaller max_size -/
def f1 : Scanned := ⟨"cas/a", ⟨5000, 5000, "r1", false⟩, 30⟩
def f2 : Scanned := ⟨"ac/b", ⟨100, 100, "r2", false⟩, 10⟩
def f3 : Scanned := ⟨"cas/c", ⟨9000, 3000, "r3", false⟩, 20⟩
example : (pairs (loadSorted 12288 0 [f2, f3, f1]).1).map (·.1) = ["cas/c", "cas/a"] := by decide
example : (pairs (loadSorted 20000 0 [f2, f3, f1]).1).map (·.1) = ["ac/b", "cas/c", "cas/a"] := by decide
example : ((loadSorted 4096 0 [f2, f3, f1]).2).map (·.key) = ["cas/a"] := by decide

#print axioms restart_keeps_newest_that_fit
#print axioms restart_keeps_everything_when_it_fits
#print axioms restart_accounting
#print axioms restart_tracks_every_file
#print axioms sort_sorted
end BR.Props.C09
