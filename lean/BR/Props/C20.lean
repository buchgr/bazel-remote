import BR.Lemmas.BlobWrite
import BR.Lemmas.Toy
import BR.Bridge.Blob
import BR.Bridge.Backend
/-!
# C20 — stored format stays compatible

The published v2 layout (README, header comment of casblob.go) is `encodeHeader` + `Conformant` in
`BR.CasBlob`: 4-byte magic 0x184D2A50 and 4-byte frame size (a zstd skippable frame), int64 logical
size, uint8 compression, uint32 chunk size, int64 number of offsets, int64 offsets (one per chunk
plus the file size), then independently compressed chunks.  Theorems: the reader accepts every
conformant file (any chunk size, any encoder) and reads it exactly; the writer emits only
conformant files.  File and object naming: `BR.Props.C15`/`C09` (M3) and the Bridge facts.
-/
namespace BR.Props.C20
open BR.CasBlob

/-- the header is a zstd skippable frame: magic, then the length of the rest of the header -/
theorem header_is_skippable_frame (h : Header) (hfit : 8 * h.chunkOffsets.length + 21 < 4294967296) :
    ∃ payload, encodeHeader h = le32 magic ++ le32 payload.length ++ payload ∧
      payload.length = 8 * h.chunkOffsets.length + 21 := by
  refine ⟨le64i h.uncompressedSize ++ [h.compression % 256] ++ le32 h.chunkSize ++
    le64i (h.chunkOffsets.length : Int) ++ h.chunkOffsets.flatMap le64i, ?_, by simp [-List.length_flatMap]; omega⟩
  have : (le64i h.uncompressedSize ++ [h.compression % 256] ++ le32 h.chunkSize ++
      le64i (h.chunkOffsets.length : Int) ++ h.chunkOffsets.flatMap le64i).length = h.frameSize := by
    simp [-List.length_flatMap, Header.frameSize]; omega
  rw [this]
  simp [encodeHeader, List.append_assoc]

/-- **the reader accepts every header in the published layout** (`readHeader ∘ header.write = id`) -/
theorem header_roundtrip (h : Header) (hw : WfHeader h) (body : Bytes)
    (hbig : 45 < (encodeHeader h ++ body).length)
    (hinc : increasingFrom (-1) h.chunkOffsets = true)
    (hlast : lastOr (-1) h.chunkOffsets = ((encodeHeader h ++ body).length : Int))
    (hz : h.compression = 1 → h.chunkSize ≠ 0 ∧ 0 < h.uncompressedSize ∧
      numChunksFor h.uncompressedSize h.chunkSize = (h.chunkOffsets.length : Int) - 1) :
    parseHeader (encodeHeader h ++ body) = .ok h := parse_encode h hw body hbig hinc hlast hz

/-- **every conformant file is read back exactly**, whatever chunk size the header states and
whatever encoder produced the frames -/
theorem conformant_readable {C : Codec} (hl : C.Lawful) {cs : Nat} {pairs : List (Bytes × Bytes)} {file : Bytes}
    (hc : Conformant C cs pairs file) (off : Nat) (hoff : off < (dataOf pairs).length) :
    parseHeader file = .ok (hdrOf cs pairs) ∧
    readRaw C file (-1) (off : Int) = .ok ((dataOf pairs).drop off, true) :=
  ⟨conformant_parses hc, readRaw_conformant hl hc off hoff (-1) (Or.inl rfl)⟩

/-- **everything this build writes conforms** to the same format (so an independent implementation
reads it back) -/
theorem written_files_conform (C : Codec) (hl : C.Lawful) (H : Bytes → String) (cs : Nat) (hcs : 0 < cs)
    (hcs2 : cs < 4294967296) (s : Stream) (size : Int) (hash : String)
    (hok : 0 < size ∧ s.fault = false ∧ (s.data.length : Int) = size ∧ H s.data = hash)
    (hsize : size < 9223372036854775808) :
    let pairs := (fillChunks (wantLens size.toNat cs) s.data).1.map (fun c => (C.enc c, c))
    let final := encodeHeader (hdrOf cs pairs) ++ (framesOf pairs).flatten
    (writeAndClose C H cs s size hash).images.getLast? = some final ∧ dataOf pairs = s.data ∧
    ((final.length : Int) < 9223372036854775808 → 8 * (pairs.length + 1) + 21 < 4294967296 →
      Conformant C cs pairs final) := by
  have ⟨hpos, _, hlen, _⟩ := hok
  obtain ⟨hdata, hplen, _⟩ := writtenPairs_exact C cs hpos hlen
  exact ⟨writeAndClose_last C H cs hok, hdata, fun hsmall hfit =>
    finalImage_conformant C hl hcs hcs2 hpos hlen hsize hsmall (hplen ▸ hfit)⟩

/-- `ExtractLogicalSize` (used by the http/s3/azblob back ends) reads the logical size field of any
header in the published layout -/
theorem extract_logical_size (h : Header) (hw : WfHeader h) (body : Bytes) (hpos : 0 < h.uncompressedSize) :
    extractLogicalSize (encodeHeader h ++ body) = .ok h.uncompressedSize := by
  have hf := fields_of_encode h hw body
  unfold extractLogicalSize
  have hlen : ¬ ((encodeHeader h ++ body).length < 16) := by
    rw [List.length_append, encodeHeader_length]; omega
  simp only [hlen, if_false, hf.usize]
  have : ¬ h.uncompressedSize ≤ 0 := by omega
  simp [this]

example : parseHeader (encodeHeader (hdrOf 2 [(ToyU.frame [1, 2], [1, 2]), (ToyU.frame [3], [3])]) ++
      (ToyU.frame [1, 2] ++ ToyU.frame [3])) = .ok ⟨3, 1, 2, [53, 57, 60]⟩ := by decide +kernel

#print axioms header_is_skippable_frame
#print axioms header_roundtrip
#print axioms conformant_readable
#print axioms written_files_conform
#print axioms extract_logical_size
end BR.Props.C20
