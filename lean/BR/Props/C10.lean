import BR.Lemmas.FindMissing
import BR.Gen.Consts
/-!
# C10 — FindMissingBlobs reports exactly the absent digests

Model M7 (`BR.FindMissing`): the request list is processed in batches of `batch` digests (20 in the
code, a regenerated constant); batch `i` is looked up against the index as it is at that moment
(`idxAt i` — unrelated traffic may change the index between batches); digests not found locally go
to the back end unless they exceed `max_proxy_blob_size`; workers clear the slots of found digests
in any order; the survivors are compacted in request order.
-/
namespace BR.Props.C10
open BR.FindMissing

/-- **exactly the absent digests, for every batch size and every list length**: with an index that
does not change during the call, the answer is the request list filtered by "absent locally (or
present only with another size) and not vouched for by the back end (or too large for it)",
in request order, duplicates preserved. -/
theorem chunked_eq_filter (batch : Nat) (hb : 0 < batch) (idx : Index) (proxy : Proxy) (maxProxy : Int)
    (ds : List Digest) :
    findMissing batch (fun _ => idx) proxy maxProxy ds = ds.filter (stillMissing idx proxy maxProxy) :=
  (go_sublist_filter _ (fun _ _ h => h) _ 0 ds).eq_of_length_le
    (filter_sublist_go hb _ (fun _ _ h => h) _ 0 ds (Nat.le_refl _)).length_le

/-- **request order and duplicates are preserved** even while the index changes between batches:
the answer is always a sublist of the request -/
theorem result_is_ordered_sublist (batch : Nat) (idxAt : Nat → Index) (proxy : Proxy) (maxProxy : Int)
    (ds : List Digest) : (findMissing batch idxAt proxy maxProxy ds).Sublist ds :=
  (go_sublist_filter (fun _ => true) (fun _ _ _ => rfl) _ 0 ds).trans List.filter_sublist

/-- **a blob that is present throughout the call is never reported missing**: if every index state
during the call finds the digest (with the stated size), it is not in the answer; the same holds
for a digest the back end vouches for (within `max_proxy_blob_size`); the empty blob is never
missing. -/
theorem present_throughout_not_reported (batch : Nat) (idxAt : Nat → Index) (proxy : Proxy) (maxProxy : Int)
    (ds : List Digest) (d : Digest) (hp : ∀ j, stillMissing (idxAt j) proxy maxProxy d = false) :
    d ∉ findMissing batch idxAt proxy maxProxy ds := by
  intro h
  -- no index state reports `d`, so the answer lies within the request with `d` struck out
  have := (go_sublist_filter (· != d)
    (fun j x hx => by rw [bne_iff_ne]; rintro rfl; rw [hp j] at hx; cases hx) _ 0 ds).subset h
  simp at this

theorem empty_blob_never_missing (batch : Nat) (idxAt : Nat → Index) (proxy : Proxy) (maxProxy : Int)
    (ds : List Digest) : (⟨emptySha256, 0⟩ : Digest) ∉ findMissing batch idxAt proxy maxProxy ds := by
  apply present_throughout_not_reported
  intro j
  simp [stillMissing, localFound]

/-- **a blob that is absent throughout the call is reported**: absent locally (or present only with
another size) in every index state, and not vouched for by the back end or larger than
`max_proxy_blob_size` -/
theorem absent_throughout_reported (batch : Nat) (hb : 0 < batch) (idxAt : Nat → Index) (proxy : Proxy)
    (maxProxy : Int) (ds : List Digest) (d : Digest) (hd : d ∈ ds)
    (hm : ∀ j, stillMissing (idxAt j) proxy maxProxy d = true) :
    d ∈ findMissing batch idxAt proxy maxProxy ds :=
  (filter_sublist_go hb (· == d) (fun j x hx => by rw [eq_of_beq hx]; exact hm j)
    _ 0 ds (Nat.le_refl _)).subset (List.mem_filter.mpr ⟨hd, beq_self_eq_true d⟩)

/-- a digest absent locally is reported present on the strength of the back end exactly when it is
within `max_proxy_blob_size` and the back end holds it with a size that does not contradict the
stated one -/
theorem backend_vouches_iff (idx : Index) (has : Digest → Option Int) (maxProxy : Int) (d : Digest)
    (hl : localFound idx d = false) :
    stillMissing idx (some has) maxProxy d = false ↔
      d.size ≤ maxProxy ∧ ∃ sz, has d = some sz ∧ isSizeMismatch d.size sz = false := by
  simp only [stillMissing, hl, proxyHas]
  cases hh : has d with
  | none => simp
  | some sz =>
    simp only [Bool.not_false, Bool.true_and, Bool.or_eq_false_iff, decide_eq_false_iff_not, Bool.not_eq_false',
      Bool.not_eq_true', Option.some.injEq, exists_eq_left', Int.not_lt]

/-- a back-end object larger than `max_proxy_blob_size` does not make a digest present -/
theorem oversize_for_proxy_stays_missing (idx : Index) (has : Digest → Option Int) (maxProxy : Int) (d : Digest)
    (hl : localFound idx d = false) (hbig : d.size > maxProxy) :
    stillMissing idx (some has) maxProxy d = true := by
  rw [← Bool.not_eq_false, backend_vouches_iff idx has maxProxy d hl]
  exact fun h => absurd h.1 (Int.not_le.mpr hbig)

/-- a back-end object whose reported size is known and differs from the stated size, or exceeds
`max_proxy_blob_size`, does not make a (well-formed, size ≥ 0) digest present (finding F25) -/
theorem backend_other_size_stays_missing (idx : Index) (has : Digest → Option Int) (maxProxy : Int) (d : Digest) (sz : Int)
    (hl : localFound idx d = false) (hh : has d = some sz) (hd : 0 ≤ d.size)
    (hbad : (0 ≤ sz ∧ d.size ≠ sz) ∨ sz > maxProxy) :
    stillMissing idx (some has) maxProxy d = true := by
  rw [← Bool.not_eq_false, backend_vouches_iff idx has maxProxy d hl]
  rintro ⟨hle, sz', hs, hm⟩
  obtain rfl : sz = sz' := by simpa [hh] using hs
  -- both sizes are known and differ, so `isSizeMismatch` cannot be false
  simp [isSizeMismatch] at hm
  omega

theorem worker_order_irrelevant {α} (o1 o2 : List Nat) (slots : List (Option α)) (hperm : ∀ i, i ∈ o1 ↔ i ∈ o2) :
    applyWrites o1 slots = applyWrites o2 slots := by
  apply List.ext_getElem?
  intro i
  simp only [applyWrites_get, hperm]

theorem filterNonNil_eq {α} (l : List (Option α)) : filterNonNil l = l.filterMap id := by
  induction l with
  | nil => rfl
  | cons x xs ih => cases x <;> simp [filterNonNil, ih]

/-- **fail-fast** (used by the ActionResult dependency check): a miss exactly when some digest is
missing — never a hit while a blob is absent everywhere -/
theorem failfast_miss_iff (batch : Nat) (hb : 0 < batch) (idx : Index) (proxy : Proxy) (maxProxy : Int)
    (ds : List Digest) :
    failFastMiss batch (fun _ => idx) proxy maxProxy ds = true ↔ ∃ d ∈ ds, stillMissing idx proxy maxProxy d = true := by
  simp [failFastMiss, chunked_eq_filter batch hb, List.filter_eq_nil_iff]

theorem batch_size_source : BR.Gen.disk.batchSize = 20 := by rfl

/-! non-vacuity: 45 digests, every third one stored, batch 20 -/
def idx3 : Index := fun h => if h.length % 3 = 0 then some 1 else none
def req : List Digest := (List.range 45).map (fun i => ⟨String.ofList (List.replicate i 'a'), 1⟩)
example : (findMissing 20 (fun _ => idx3) none 100 req).length = 30 := by decide +kernel

/-! non-vacuity of the back-end size theorems: a back end that holds the hash with one byte more
than stated does not vouch; one that reports no size, or the stated size, does -/
example : stillMissing (fun _ => none) (some (fun d => some (d.size + 1))) 1000 ⟨"h", 5⟩ = true ∧
    stillMissing (fun _ => none) (some (fun _ => some (-1))) 1000 ⟨"h", 5⟩ = false ∧
    stillMissing (fun _ => none) (some (fun d => some d.size)) 1000 ⟨"h", 5⟩ = false := by decide

#print axioms chunked_eq_filter
#print axioms result_is_ordered_sublist
#print axioms present_throughout_not_reported
#print axioms empty_blob_never_missing
#print axioms absent_throughout_reported
#print axioms oversize_for_proxy_stays_missing
#print axioms backend_other_size_stays_missing
#print axioms backend_vouches_iff
#print axioms worker_order_irrelevant
#print axioms failfast_miss_iff
end BR.Props.C10
