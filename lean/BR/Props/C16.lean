import BR.Lemmas.Proto
import BR.Gen.Consts
/-!
# C16 — ByteStream.Write and QueryWriteStatus follow the upload protocol

Model M10 (`BR.Proto`): `parseWrite` / `parseRead` are the resource-name parsers on the `/`-split
fields; `writeRPC` is the outcome of ByteStream.Write as a function of the message sequence, the
answer of the existence probe and whether `Put` accepts the bytes that went through the pipe (C01).
-/
namespace BR.Props.C16
open BR.Proto

/-- **an existing blob returns early** with the blob size (blobs/) or −1 (compressed-blobs/),
whatever the rest of the stream contains or whether it is sent at all -/
theorem existing_blob_returns_early (split : String → List String) (maxBlob : Int) (present : String → Int → Bool) (putOK : Bool)
    (m : WMsg) (rest rest' : List WMsg) (hash : String) (size : Int) (z : Bool)
    (hn : m.name ≠ "") (hp : parseWrite (split m.name) = .ok (hash, size, z)) (hs : size ≤ maxBlob)
    (hpres : present hash size = true) :
    writeRPC split maxBlob present putOK (m :: rest) = .ok (if z then -1 else size) ∧
    writeRPC split maxBlob present putOK (m :: rest) = writeRPC split maxBlob present (!putOK) (m :: rest') := by
  have hs' : ¬ size > maxBlob := by omega
  simp [writeRPC, recvLoop, hn, hp, hs', hpres]

/-- **a first message with a non-zero write_offset fails** (for a blob not yet present) -/
theorem nonzero_first_offset_fails (split : String → List String) (maxBlob : Int) (present : String → Int → Bool) (putOK : Bool)
    (m : WMsg) (rest : List WMsg) (hash : String) (size : Int) (z : Bool)
    (hp : parseWrite (split m.name) = .ok (hash, size, z)) (hpres : present hash size = false)
    (ho : m.offset ≠ 0) : writeRPC split maxBlob present putOK (m :: rest) = .err := by
  by_cases hn : m.name = ""
  · simp [writeRPC, recvLoop, hn]
  · -- whichever way the size test goes
    by_cases hbig : size > maxBlob <;> simp [writeRPC, recvLoop, hn, hp, hbig, hpres, ho]

/-- **an unparsable or empty resource name fails**, and so does an empty stream -/
theorem bad_name_fails (split : String → List String) (maxBlob : Int) (present : String → Int → Bool) (putOK : Bool) (m : WMsg) (rest : List WMsg)
    (hbad : m.name = "" ∨ ∀ v, parseWrite (split m.name) ≠ .ok v) :
    writeRPC split maxBlob present putOK (m :: rest) = .err ∧ writeRPC split maxBlob present putOK [] = .err := by
  refine ⟨?_, rfl⟩
  by_cases hn : m.name = ""
  · simp [writeRPC, recvLoop, hn]
  · cases hp : parseWrite (split m.name) with
    | ok v => exact absurd hp (hbad.resolve_left hn v)
    | err | panic => simp [writeRPC, recvLoop, hn, hp]

/-- **a size above the limit fails before anything is written** -/
theorem over_limit_fails (split : String → List String) (maxBlob : Int) (present : String → Int → Bool) (putOK : Bool) (m : WMsg) (rest : List WMsg)
    (hash : String) (size : Int) (z : Bool) (hn : m.name ≠ "")
    (hp : parseWrite (split m.name) = .ok (hash, size, z)) (hbig : size > maxBlob) :
    writeRPC split maxBlob present putOK (m :: rest) = .err := by
  simp [writeRPC, recvLoop, hn, hp, hbig]

/-- **a successful non-early Write commits exactly the declared blob size on `blobs/`** and needs
`Put` to accept the bytes: more or fewer bytes than declared fail the call. -/
theorem ok_means_declared_size (split : String → List String) (maxBlob : Int) (present : String → Int → Bool) (putOK : Bool) (m : WMsg)
    (rest : List WMsg) (hash : String) (size : Int) (hp : parseWrite (split m.name) = .ok (hash, size, false))
    (hpres : present hash size = false) (c : Int) (hok : writeRPC split maxBlob present putOK (m :: rest) = .ok c) :
    c = size ∧ putOK = true := by
  unfold writeRPC recvLoop at hok
  by_cases hn : m.name = ""
  · simp [hn] at hok
  by_cases hbig : size > maxBlob
  · simp [hn, hp, hbig] at hok
  by_cases ho : m.offset ≠ 0
  · simp [hn, hp, hbig, hpres, ho] at hok
  simp only [hn, if_false, hp, hbig, hpres, ho, Bool.false_eq_true] at hok
  rcases recvRest_cases ⟨hash, size, false, m.name, 0⟩ ({ m with name := "" } :: rest) with hr | ⟨c', hr, hc⟩
  · simp [hr] at hok
  · cases putOK <;> simp [hr] at hok
    exact ⟨hok ▸ hc rfl, rfl⟩

/-- the parsers are total: no resource name makes them index out of range -/
theorem parsers_never_panic (fields : List String) : parseWrite fields ≠ .panic ∧ parseRead fields ≠ .panic := by
  -- every `rem[i]` sits behind a length test (`at?_bind_ne_panic`, the bound by `omega` from the tests
  -- passed so far), the tests themselves answer `.err`, and every branch ends in `sizeAndHash`
  have tail : ∀ (h s : String) (z : Bool),
      (sizeAndHash h s >>= fun (hash, size) => (pure (hash, size, z) : PRes _)) ≠ .panic :=
    fun h s z => PRes.bind_ne_panic (sizeAndHash_ne_panic h s) (fun _ => nofun)
  constructor
  · unfold parseWrite
    generalize (afterFirst "uploads" fields).getD [] = rem
    dsimp only
    split
    · nofun
    refine at?_bind_ne_panic (by omega) fun r1 => ?_
    split
    · exact at?_bind_ne_panic (by omega) fun h => at?_bind_ne_panic (by omega) fun s => tail h s _
    split
    · nofun
    refine at?_bind_ne_panic (by omega) fun c => ?_
    split
    · nofun
    exact at?_bind_ne_panic (by omega) fun s => at?_bind_ne_panic (by omega) fun h => tail h s _
  · unfold parseRead
    split
    · split
      · nofun
      exact at?_bind_ne_panic (by omega) fun h => at?_bind_ne_panic (by omega) fun s => tail h s _
    · split
      · nofun
      refine at?_bind_ne_panic (by omega) fun c => ?_
      split
      · nofun
      exact at?_bind_ne_panic (by omega) fun h => at?_bind_ne_panic (by omega) fun s => tail h s _
    · nofun

/-- **REAPI-conformant names are understood with any instance prefix and trailing metadata**: any
prefix segments not containing `uploads`, a uuid, `blobs/<hash>/<size>` (or
`compressed-blobs/zstd/<hash>/<size>`), then anything -/
theorem conformant_write_name (pre tail : List String) (uuid hash sizeStr : String) (size : Int)
    (hpre : "uploads" ∉ pre) (hsz : parseInt64 sizeStr = some size) (h0 : 0 ≤ size) (hv : validateHash hash size = true) :
    parseWrite (pre ++ ["uploads", uuid, "blobs", hash, sizeStr] ++ tail) = .ok (hash, size, false) ∧
    parseWrite (pre ++ ["uploads", uuid, "compressed-blobs", "zstd", hash, sizeStr] ++ tail) = .ok (hash, size, true) := by
  have hsh : sizeAndHash hash sizeStr = .ok (hash, size) := by simp [sizeAndHash, hsz, Int.not_lt.mpr h0, hv]
  constructor <;>
    simp +arith [parseWrite, List.append_assoc, afterFirst_append hpre, at?, bind, PRes.bind, hsh, pure]

/-- the stream buffer and hash-length constants used by the handlers, as in the source -/
theorem limits_source : BR.Gen.server.maxChunkSize = 2097152 ∧ BR.Gen.server.hashKeyLength = 64 := ⟨rfl, rfl⟩

/-! non-vacuity (the name is split by a fixed function so that the kernel can evaluate the examples) -/
def hA : String := "aaaaaaaaaaaaaaaaaaaaaaaaaaaaaaaaaaaaaaaaaaaaaaaaaaaaaaaaaaaaaaaa"
def splitBlobs : String → List String := fun _ => ["inst", "uploads", "u", "blobs", hA, "5"]
def splitZstd : String → List String := fun _ => ["uploads", "u", "compressed-blobs", "zstd", hA, "5", "meta"]
example : parseWrite (splitBlobs "n") = .ok (hA, 5, false) ∧ parseWrite (splitZstd "n") = .ok (hA, 5, true) := by decide +kernel
example : writeRPC splitBlobs 1000 (fun _ _ => false) true [⟨"n", 0, 2, false⟩, ⟨"", 2, 3, true⟩] = .ok 5 := by decide +kernel
example : writeRPC splitBlobs 1000 (fun _ _ => false) true [⟨"n", 0, 2, false⟩, ⟨"", 2, 4, true⟩] = .err := by decide +kernel
example : writeRPC splitZstd 1000 (fun _ _ => true) false [⟨"n", 0, 1, false⟩] = .ok (-1) := by decide +kernel

/-- **QueryWriteStatus reports complete with the full size exactly when the blob is present**: for
every well-formed upload resource name (plain or compressed-blobs) the answer is
`(size, complete)` if the digest is present and `(0, not complete)` otherwise; malformed names are
an error -/
theorem query_write_status_iff_present (split : String → List String) (present : String → Int → Bool) (name hash : String)
    (size : Int) (z : Bool) (hp : parseWrite (split name) = .ok (hash, size, z)) :
    queryWriteStatus split present name = some (if present hash size then (size, true) else (0, false)) := by
  unfold queryWriteStatus; rw [hp]

theorem query_write_status_bad_name (split : String → List String) (present : String → Int → Bool) (name : String)
    (hp : ∀ r, parseWrite (split name) ≠ .ok r) : queryWriteStatus split present name = none := by
  unfold queryWriteStatus
  cases h : parseWrite (split name) with
  | ok r => exact absurd h (hp r)
  | err => rfl
  | panic => rfl

#print axioms existing_blob_returns_early
#print axioms nonzero_first_offset_fails
#print axioms bad_name_fails
#print axioms over_limit_fails
#print axioms ok_means_declared_size
#print axioms parsers_never_panic
#print axioms conformant_write_name
#print axioms query_write_status_iff_present
#print axioms query_write_status_bad_name
end BR.Props.C16

