import BR.Lemmas.DiskPutGet
import BR.Lemmas.Toy
import BR.Bridge.Disk
import BR.Bridge.Blob
/-!
# C01 — CAS uploads are acknowledged only if bytes match the digest, on every write path

All ten write paths end in `diskCache.Put` (M4), which for compressed storage calls
`casblob.WriteAndClose` (M2) and for uncompressed storage the `sha256verifier`.  SHA-256 is the
opaque function `H`; "acknowledged ⇒ `H data = declared`" is what the theorems state (no collision
resistance is needed).  The per-path plumbing (which size / hash / reader each handler hands to
`Put`) is tied by the server-level correspondence runs and Bridge facts of M10/M11.
-/
namespace BR.Props.C01
open BR.Disk BR.Lru BR.CasBlob

/-- **compressed storage**: `WriteAndClose` succeeds **iff** the declared size is positive, the
stream delivered exactly that many bytes and then a clean EOF, and they hash to the declared digest.
Flipped, truncated or extended data, a wrong declared size or hash, trailing bytes, a stream aborted
part-way: all are errors. -/
theorem writeAndClose_ack_iff (C : Codec) (H : Bytes → String) (cs : Nat) (hcs : 0 < cs) (s : Stream) (size : Int)
    (hash : String) :
    (∃ n, (writeAndClose C H cs s size hash).result = .ok n) ↔
      (0 < size ∧ s.fault = false ∧ (s.data.length : Int) = size ∧ H s.data = hash) :=
  write_ok_iff C H cs hcs s size hash

/-- **Put, both storage modes, all key spaces**: an OK answer implies the size is within
`[0, max_blob_size]`, the hash has 64 characters, and either it is the (never stored) empty CAS
blob uploaded with no bytes at all (F37: before the fix any bytes were acknowledged under that
digest), or the stream ended cleanly after exactly `size` bytes that — for CAS — hash to the digest. -/
theorem put_ack_only_if (C : Codec) (H : Bytes → String) (d : Disk) (hcs : 0 < d.cfg.chunkSize) (kind : Kind)
    (hash : String) (size : Int) (s : Stream) (rnd : String)
    (hok : (put C H d kind hash size s rnd).2 = .ok) :
    0 ≤ size ∧ size ≤ d.cfg.maxBlobSize ∧ hash.length = 64 ∧
    ((kind = .cas ∧ size = 0 ∧ hash = emptySha256 ∧ s.data = []) ∨
     (s.fault = false ∧ (s.data.length : Int) = size ∧ (kind = .cas → H s.data = hash))) :=
  BR.Disk.put_ack_only_if C H d hcs kind hash size s rnd hok

/-- **every other upload does not make the claimed digest present**: a Put that is not
acknowledged leaves the directory unchanged and adds no entry to the index (entries can only move
to the removal queue, when the reservation evicted them). -/
theorem put_nack_stores_nothing (C : Codec) (H : Bytes → String) {d : Disk} (h : DiskInv d) (kind : Kind)
    (hash : String) (size : Int) (s : Stream) (rnd : String)
    (hno : (put C H d kind hash size s rnd).2 ≠ .ok) :
    (put C H d kind hash size s rnd).1.files = d.files ∧
    (tracked (put C H d kind hash size s rnd).1.lru).Perm (tracked d.lru) :=
  (put_effect C H h kind hash size s rnd (fun hok => absurd hok hno)).2.2 hno

/-- what an acknowledged compressed upload leaves on disk is a conformant blob of exactly the
uploaded bytes, which every reader returns unchanged (C02) -/
theorem acked_blob_is_readable (C : Codec) (hl : C.Lawful) (H : Bytes → String) (cs : Nat) (hcs : 0 < cs)
    (hcs2 : cs < 4294967296) (s : Stream) (size : Int) (hash : String)
    (hok : 0 < size ∧ s.fault = false ∧ (s.data.length : Int) = size ∧ H s.data = hash)
    (hsize : size < 9223372036854775808) :
    let pairs := (fillChunks (wantLens size.toNat cs) s.data).1.map (fun c => (C.enc c, c))
    let final := encodeHeader (hdrOf cs pairs) ++ (framesOf pairs).flatten
    (writeAndClose C H cs s size hash).images.getLast? = some final ∧ dataOf pairs = s.data ∧
    ((final.length : Int) < 9223372036854775808 → 8 * (pairs.length + 1) + 21 < 4294967296 →
      ∀ off, off < s.data.length → readRaw C final (-1) (off : Int) = .ok (s.data.drop off, true)) := by
  have ⟨hpos, _, hlen, _⟩ := hok
  obtain ⟨hdata, hplen, _⟩ := writtenPairs_exact C cs hpos hlen
  have hlast := writeAndClose_last C H cs hok
  exact ⟨hlast, hdata, fun hsmall hfit off hoff =>
    written_readRaw C hl H hcs hcs2 hok hsize hlast hsmall (hplen ▸ hfit) off hoff (-1) (Or.inl rfl)⟩

/-- **an acknowledged blob is thereafter readable** (AC, RAW, CAS in uncompressed storage mode): in
every state reachable by any sequence of Put / get / Contains requests and remover runs, the read
that follows an acknowledged upload — size stated or not, from any offset inside the blob — is a
hit with exactly the uploaded bytes from that offset on; the back end is not consulted.
(`hfresh`: `tempfile.Create` returned an unused name, as O_EXCL guarantees; `hne`: no non-empty
blob has the SHA-256 of the empty blob.) -/
theorem acked_then_read_raw {C : Codec} {H : Bytes → String} {cfg : Cfg} {m hl : Int} (h0 : 0 ≤ m)
    (h1 : m < 9223372036854775808) {d : Disk} (hr : Reach C H cfg m hl d)
    (kind : Kind) (hash : String) (size : Int) (s : Stream) (rnd : String)
    (hfresh : ∀ legacy, fileLocation kind legacy hash size rnd ∉ d.files.map Prod.fst)
    (hraw : ¬ (kind = .cas ∧ d.cfg.mode = .zstd)) (hne : kind = .cas → hash ≠ emptySha256)
    (hok : (put C H d kind hash size s rnd).2 = .ok)
    (req : Int) (hreq : req = -1 ∨ req = size) (off : Nat) (hoff : off = 0 ∨ (off : Int) < size)
    (pg : ProxyGet) (rnd' : String) :
    (get C (put C H d kind hash size s rnd).1 kind hash req (off : Int) false pg rnd').2 =
      .hit { data := s.data.drop off, clean := true, size := size } :=
  put_then_get_raw (reach_inv h0 h1 hr).1 (reach_inv h0 h1 hr).2 hfresh hraw hne hok hreq hoff pg rnd'

/-- the same for CAS blobs in compressed storage mode, for every lawful codec: the file the writer
left is decoded back to the uploaded bytes (`hsmall`, `hfit`: file length and chunk table within
int64 / uint32) -/
theorem acked_then_read_zstd {C : Codec} (hlaw : C.Lawful) {H : Bytes → String} {cfg : Cfg} {m hl : Int} (h0 : 0 ≤ m)
    (h1 : m < 9223372036854775808) {d : Disk} (hr : Reach C H cfg m hl d)
    (hash : String) (size : Int) (s : Stream) (rnd : String)
    (hfresh : ∀ legacy, fileLocation .cas legacy hash size rnd ∉ d.files.map Prod.fst)
    (hz : d.cfg.mode = .zstd) (hne : hash ≠ emptySha256)
    (hcs : 0 < d.cfg.chunkSize) (hcs2 : d.cfg.chunkSize < 4294967296) (hsize : size < 9223372036854775808)
    (hfit : 8 * ((wantLens size.toNat d.cfg.chunkSize).length + 1) + 21 < 4294967296)
    (hsmall : ∀ img, (writeAndClose C H d.cfg.chunkSize s size hash).images.getLast? = some img →
      (img.length : Int) < 9223372036854775808)
    (hok : (put C H d .cas hash size s rnd).2 = .ok)
    (req : Int) (hreq : req = -1 ∨ req = size) (off : Nat) (hoff : (off : Int) < size)
    (pg : ProxyGet) (rnd' : String) :
    (get C (put C H d .cas hash size s rnd).1 .cas hash req (off : Int) false pg rnd').2 =
      .hit { data := s.data.drop off, clean := true, size := size } :=
  put_then_get_zstd hlaw (reach_inv h0 h1 hr).1 (reach_inv h0 h1 hr).2 hfresh hz hne hcs hcs2 hsize hfit hsmall hok
    hreq hoff pg rnd'

/-! non-vacuity: an exact upload is acknowledged, a truncated one is not (toy codec, identity hash) -/
def hA : String := "aaaaaaaaaaaaaaaaaaaaaaaaaaaaaaaaaaaaaaaaaaaaaaaaaaaaaaaaaaaaaaaa"
def cfgZ : Cfg := { mode := .zstd, maxBlobSize := 1000000, maxProxyBlobSize := 1000000, hasProxy := false, chunkSize := 2 }
def Hc : Bytes → String := fun b => if b = [1, 2, 3] then hA else "other"

example : (put ToyU.codec Hc (init cfgZ 40960 0) .cas hA 3 ⟨[1, 2, 3], false⟩ "r").2 = .ok ∧
    (put ToyU.codec Hc (init cfgZ 40960 0) .cas hA 3 ⟨[1, 2], false⟩ "r").2 = .e500 ∧
    (put ToyU.codec Hc (init cfgZ 40960 0) .cas hA 3 ⟨[1, 2, 4], false⟩ "r").2 = .e500 ∧
    (put ToyU.codec Hc (init cfgZ 40960 0) .cas hA 3 ⟨[1, 2, 3, 4], false⟩ "r").2 = .e500 := by decide +kernel

/-- put then read, compressed and uncompressed storage (toy codec) -/
example : (get ToyU.codec (put ToyU.codec Hc (init cfgZ 40960 0) .cas hA 3 ⟨[1, 2, 3], false⟩ "r").1 .cas hA 3 1 false
      .notFound "q").2 = .hit { data := [2, 3], clean := true, size := 3 } ∧
    (get ToyU.codec (put ToyU.codec Hc (init { cfgZ with mode := .identity } 40960 0) .cas hA 3 ⟨[1, 2, 3], false⟩ "r").1
      .cas hA (-1) 0 false .notFound "q").2 = .hit { data := [1, 2, 3], clean := true, size := 3 } := by decide +kernel

/-- the empty CAS digest: acknowledged with no bytes, refused with any -/
example : (put ToyU.codec Hc (init cfgZ 40960 0) .cas emptySha256 0 ⟨[], false⟩ "r").2 = .ok ∧
    (put ToyU.codec Hc (init cfgZ 40960 0) .cas emptySha256 0 ⟨[7], false⟩ "r").2 = .e400 := by decide +kernel

#print axioms writeAndClose_ack_iff
#print axioms put_ack_only_if
#print axioms put_nack_stores_nothing
#print axioms acked_blob_is_readable
#print axioms acked_then_read_raw
#print axioms acked_then_read_zstd
end BR.Props.C01
