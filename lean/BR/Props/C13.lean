import BR.Bridge.Auth
/-!
# C13 — authentication: no unauthenticated write; reads open only when allowed

Model M9 (`BR.Auth`): the decision taken by the HTTP wrappers / certificate checks and the gRPC
interceptors, as a function of (configuration, endpoint or method, credential state).  The domain
the property names is finite except for the gRPC method name, over which the theorems quantify
universally.  The correspondence run enumerates the whole finite domain against the real
`startHttpServer` / `startGrpcServer`.
-/
namespace BR.Props.C13
open BR.Auth

/-! Every branch of both decision functions is `.pass`, a failed handshake or `need cr`; these two
lemmas say what `need` answers. -/

theorem need_of_not_ok {cr : Cred} (h : cr.ok = false) : need cr = .deny := by simp [need, h]

theorem need_valid : need .valid = .pass := rfl

/-- the read-only table contains no mutating method, and every method in it is classified -/
theorem readOnly_subset_nonmutating : ∀ m ∈ readOnly, mutating m = false ∧ classified m = true := by decide +kernel

theorem grpc_closed {c : Cfg} {m : String} {isStream : Bool} {cr : Cred} (hm : c.mode ≠ .none) (hnh : m ≠ healthCheck)
    (hro : c.allowReads = false ∨ m ∉ readOnly) (hcr : cr.ok = false) : grpcDecision c m isStream cr = .deny := by
  have hn := need_of_not_ok hcr
  unfold grpcDecision
  cases hmode : c.mode with
  | none => exact absurd hmode hm
  | basic => rcases hro with h | h <;> simp [hnh, hn, h]
  | mtls => rcases hro with h | h <;> simp [hnh, hn, h]

/-- **no unauthenticated write (gRPC)**: with basic or mTLS authentication, any method that is not
known to be non-mutating — in particular UpdateActionResult, BatchUpdateBlobs, ByteStream.Write,
SpliceBlob, FetchBlob, and any method not in the table — is refused without valid credentials,
whatever `allow_unauthenticated_reads` and the other options are. -/
theorem grpc_no_unauth_write (c : Cfg) (hm : c.mode ≠ .none) (m : String) (isStream : Bool) (cr : Cred)
    (hmut : mutating m = true) (hcr : cr.ok = false) : grpcDecision c m isStream cr = .deny := by
  refine grpc_closed hm ?_ (.inr fun h => ?_) hcr
  · rintro rfl
    -- `methodTable` lists the health check as non-mutating
    exact absurd hmut (by decide +kernel)
  · simp [(readOnly_subset_nonmutating m h).1] at hmut

/-- **no unauthenticated write (HTTP)**: PUT to the cache is refused without valid credentials in
every authenticated configuration (a malformed URL is answered 400 by the mTLS path before the
certificate check; it changes nothing). -/
theorem http_no_unauth_write : ∀ (c : Cfg) (e : Endpoint) (cr : Cred), c.mode ≠ .none → cr.ok = false →
    (e = .cas ∨ e = .ac) → httpDecision c e .put cr = .deny := by
  intro c e cr hm hcr he
  have hn := need_of_not_ok hcr
  unfold httpDecision
  cases hmode : c.mode with
  | none => exact absurd hmode hm
  | basic => rcases he with rfl | rfl <;> simp [Method.isRead, hn]
  | mtls => rcases he with rfl | rfl <;> simp [hn]

/-- **reads, /status and /metrics are closed unless allowed** — independently of endpoint metrics -/
theorem http_reads_closed_unless_allowed : ∀ (c : Cfg) (e : Endpoint) (m : Method) (cr : Cred),
    c.mode ≠ .none → c.allowReads = false → cr.ok = false → m.isRead = true →
    (e = .cas ∨ e = .ac ∨ e = .status ∨ (e = .metrics ∧ c.metrics = true)) →
    httpDecision c e m cr = .deny := by
  intro c e m cr hm ha hcr hr he
  have hn := need_of_not_ok hcr
  unfold httpDecision
  cases hmode : c.mode with
  | none => exact absurd hmode hm
  | basic => rcases he with rfl | rfl | rfl | ⟨rfl, hme⟩ <;> simp [*]
  | mtls =>
    -- only here does the method matter beyond `isRead`: GET and HEAD share a branch
    cases m <;> cases hr <;> rcases he with rfl | rfl | rfl | ⟨rfl, hme⟩ <;> simp [*]

theorem grpc_reads_closed_unless_allowed (c : Cfg) (hm : c.mode ≠ .none) (hr : c.allowReads = false) (m : String)
    (isStream : Bool) (cr : Cred) (hcr : cr.ok = false) (hnh : m ≠ healthCheck) :
    grpcDecision c m isStream cr = .deny :=
  grpc_closed hm hnh (.inl hr) hcr

theorem http_valid_accepted (c : Cfg) (e : Endpoint) (m : Method) : httpDecision c e m .valid = .pass := by
  unfold httpDecision
  -- both arms of every `if` are `.pass` or `need .valid`; what is left has `.pass` at every leaf
  simp only [need_valid, reduceCtorEq, if_false, ite_self]
  cases c.mode <;> cases e <;> cases m <;> rfl

/-- **every bad credential state is refused, the valid one accepted** -/
theorem bad_credentials_refused_valid_accepted : ∀ (c : Cfg) (e : Endpoint) (m : Method),
    httpDecision c e m .valid = .pass ∧
    (c.mode ≠ .none → (e = .cas ∨ e = .ac) →
      httpDecision c e .put .none = .deny ∧ httpDecision c e .put .malformed = .deny ∧
      httpDecision c e .put .unknownUser = .deny ∧ httpDecision c e .put .wrongPassword = .deny) :=
  fun c e m => ⟨http_valid_accepted c e m, fun hm he =>
    ⟨http_no_unauth_write c e _ hm rfl he, http_no_unauth_write c e _ hm rfl he,
     http_no_unauth_write c e _ hm rfl he, http_no_unauth_write c e _ hm rfl he⟩⟩

theorem grpc_valid_accepted (c : Cfg) (m : String) (isStream : Bool) : grpcDecision c m isStream .valid = .pass := by
  unfold grpcDecision
  simp only [need_valid, reduceCtorEq, if_false, ite_self]
  cases c.mode <;> rfl

/-- **only the gRPC health check is always open** -/
theorem health_check_always_open (c : Cfg) (cr : Cred) (h : c.mode = .mtls → cr ≠ .malformed) :
    grpcDecision c healthCheck false cr = .pass := by
  unfold grpcDecision
  cases hmode : c.mode with
  | none => rfl
  | basic => simp
  | mtls => simp [h hmode]

/-- with allow_unauthenticated_reads, exactly the read-only table (and the health check) is open -/
theorem grpc_open_iff_readonly (c : Cfg) (hb : c.mode = .basic) (ha : c.allowReads = true) (m : String) (s : Bool) :
    grpcDecision c m s .none = .pass ↔ (m = healthCheck ∨ m ∈ readOnly) := by
  unfold grpcDecision
  simp only [hb, ha, Bool.true_and]
  by_cases h1 : m = healthCheck
  · simp [h1]
  · by_cases h2 : m ∈ readOnly
    · simp [h1, h2]
    · simp [h1, h2, need, Cred.ok]

#print axioms grpc_no_unauth_write
#print axioms http_no_unauth_write
#print axioms http_reads_closed_unless_allowed
#print axioms grpc_reads_closed_unless_allowed
#print axioms bad_credentials_refused_valid_accepted
#print axioms grpc_valid_accepted
#print axioms health_check_always_open
#print axioms readOnly_subset_nonmutating
#print axioms grpc_open_iff_readonly
end BR.Props.C13
