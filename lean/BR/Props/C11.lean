import BR.Lemmas.AC
import BR.Lemmas.Inline
import BR.Bridge.Inline
import BR.Gen.Tables
/-!
# C11 — the action cache stores and serves only valid ActionResults, unchanged

Model M8: `validate` is `validate.ActionResult`; the upload paths (gRPC UpdateActionResult, HTTP PUT
as protobuf or JSON, plain or zstd) call it on the decoded message before anything is stored, and
`GetValidatedActionResult` / GetActionResult call it again on what is read back.  The protobuf and
JSON codecs are parameters (`unmarshal (marshal m) = m`); the correspondence exercises the real ones.
-/
namespace BR.Props.C11
open BR.AC

/-- **well-formed results are accepted**: exactly when every component passes its check -/
theorem valid_iff (ar : ActionResult) :
    validate ar = none ↔
      (∀ f ∈ ar.files, checkFile f = none) ∧ (∀ d ∈ ar.dirs, checkDir d = none) ∧
      (∀ s ∈ ar.fileSymlinks, checkSymlink s = none) ∧ (∀ s ∈ ar.symlinks, checkSymlink s = none) ∧
      (∀ s ∈ ar.dirSymlinks, checkSymlink s = none) ∧
      checkDigest ar.stdoutDigest = none ∧ checkDigest ar.stderrDigest = none := by
  simp only [validate, orElse_eq_none, firstErr_none_iff]

/-- **each kind of invalid field is rejected, wherever it occurs**: a nil / path-less / absolute /
digest-less output file, a negative or malformed digest, a nil / absolute / tree-less output
directory, a nil / path-less / target-less / absolute symlink in any of the three symlink lists,
a bad stdout or stderr digest. -/
theorem invalid_rejected (ar : ActionResult) :
    (∀ f ∈ ar.files, (checkFile f).isSome → (validate ar).isSome) ∧
    (∀ d ∈ ar.dirs, (checkDir d).isSome → (validate ar).isSome) ∧
    (∀ s ∈ ar.fileSymlinks, (checkSymlink s).isSome → (validate ar).isSome) ∧
    (∀ s ∈ ar.symlinks, (checkSymlink s).isSome → (validate ar).isSome) ∧
    (∀ s ∈ ar.dirSymlinks, (checkSymlink s).isSome → (validate ar).isSome) ∧
    ((checkDigest ar.stdoutDigest).isSome → (validate ar).isSome) ∧
    ((checkDigest ar.stderrDigest).isSome → (validate ar).isSome) := by
  -- the contrapositive of `valid_iff`: a result that passes has no failing component
  cases hv : validate ar with
  | some e => simp
  | none =>
    obtain ⟨h1, h2, h3, h4, h5, h6, h7⟩ := (valid_iff ar).mp hv
    simp +contextual [h1, h2, h3, h4, h5, h6, h7]

/-- the individual invalid classes the property lists -/
theorem invalid_classes :
    checkFile none = some .nilFile ∧
    (∀ d c, checkFile (some ⟨"", d, c⟩) = some .emptyPath) ∧
    (∀ c, checkFile (some ⟨"/abs", none, c⟩) = some .absPath) ∧
    (∀ c, checkFile (some ⟨"rel", none, c⟩) = some .nilDigest) ∧
    (∀ h, checkDigest (some ⟨h, -1⟩) = some .negSize) ∧
    checkDigest (some ⟨"xyz", 1⟩) = some .badHash ∧
    checkDir none = some .nilDir ∧ checkSymlink none = some .nilSymlink ∧
    (∀ t, checkSymlink (some ⟨"", t⟩) = some .emptySymPath) ∧
    checkSymlink (some ⟨"p", ""⟩) = some .emptySymTarget := by
  refine ⟨rfl, ?_, ?_, ?_, ?_, ?_, rfl, rfl, ?_, ?_⟩
  · intro d c; simp [checkFile]
  · intro c; simp [checkFile, isAbs]
  · intro c; simp [checkFile, isAbs]
  · intro h; simp [checkDigest]
  · simp [checkDigest, validHash]
  · intro t; simp [checkSymlink]
  · simp [checkSymlink]

/-- the order and wording of the validator's tests, regenerated from the source -/
theorem validator_source_shape : BR.Gen.validate_regexps = ["^[a-f0-9]{64}$"] := by rfl

/-! ### the documented server-side changes on the way out: inlining (model M8b, `BR.Inline`) -/

/-- **inlining changes the representation, never the contents**: after `GetActionResult` has
visited stdout, stderr and the output files — inlining what the request asks for and the budget
allows, moving other inline bytes to the CAS — every field still stands for the bytes it stood for
(inline, or under the digest it carries), the CAS has only grown and every entry sits under its true
digest.  Hypotheses: no SHA-256 collision and a consistent CAS.  (Inline bytes stored next to a
digest that is not theirs — only the HTTP front end accepts such a message — stay inline: finding
F36; before its repair this theorem needed the hypothesis that no stored field is like that.) -/
theorem inlining_preserves_contents {α} (o : BR.Inline.Ops α) (max : Int) (hn : BR.Inline.NoColl o)
    (items : List (Bool × Bool × BR.Inline.Field α)) (cas : BR.Inline.Cas α) (fs : List (BR.Inline.Field α)) (sf : Int) (c : BR.Inline.Cas α)
    (h : BR.Inline.pipeline o max items 0 cas = some (fs, sf, c)) (hc : BR.Inline.CasOk o cas) :
    fs.length = items.length ∧
    (∀ p ∈ items.zip fs, ∀ a, BR.Inline.content cas p.1.2.2 = some a → BR.Inline.content c p.2 = some a) ∧
    BR.Inline.CasOk o c ∧ (∀ d a, cas.get d = some a → c.get d = some a) :=
  (BR.Inline.pipeline_spec hn h hc).1

/-- **the inlining budget**: with the de-inlining uploads succeeding, the bytes inlined into one
answer never exceed `maxInlineSize` (3 MiB, so that the message stays below gRPC's 4 MiB limit) -/
theorem inlining_keeps_budget {α} (o : BR.Inline.Ops α) (hn : BR.Inline.NoColl o)
    (items : List (Bool × Bool × BR.Inline.Field α)) (cas : BR.Inline.Cas α) (fs : List (BR.Inline.Field α)) (sf : Int) (c : BR.Inline.Cas α)
    (h : BR.Inline.pipeline o BR.Inline.maxInlineSize items 0 cas = some (fs, sf, c)) (hc : BR.Inline.CasOk o cas)
    (hcons : ∀ it ∈ items, BR.Inline.Consistent o it.2.2) (hput : ∀ it ∈ items, it.2.1 = true) :
    sf ≤ BR.Inline.maxInlineSize :=
  (BR.Inline.pipeline_spec hn h hc).2 (fun it hit => ⟨hput it hit, hcons it hit⟩) (by decide)

/-- **as the request asks and the budget allows**: a requested field that fits comes back inline
with its contents; a field that is not requested, or does not fit, comes back by (true) digest with
its bytes in the CAS and does not count against the budget -/
theorem inline_request_honoured {α} (o : BR.Inline.Ops α) (max : Int) (putOk : Bool) (f : BR.Inline.Field α) (sofar : Int)
    (cas : BR.Inline.Cas α) (a : α) (hfit : BR.Inline.fits o max f sofar = true) (hcont : BR.Inline.content cas f = some a)
    (hpos : ∀ d, f.raw = none → f.dig = some d → d.size > 0) :
    ∃ s, BR.Inline.maybeInline o max putOk true f sofar cas = some s ∧ s.field.raw = some a := by
  open BR.Inline in
  -- `hfit` puts the call on the inlining side; what comes back then depends on the field's shape only
  simp only [maybeInline, hfit, Bool.and_self, Bool.not_true, Bool.false_eq_true, if_false]
  cases hr : f.raw with
  | some b => exact ⟨_, rfl, by simpa [content, hr] using hcont⟩
  | none =>
    cases hd : f.dig with
    | none => simp [content, hr, hd] at hcont
    | some d =>
      have hg : cas.get d = some a := by simpa [content, hr, hd] using hcont
      simp only [hpos d hr hd, if_true, hg]
      exact ⟨_, rfl, rfl⟩

theorem not_requested_is_by_digest {α} (o : BR.Inline.Ops α) (max : Int) (want : Bool) (f : BR.Inline.Field α) (sofar : Int)
    (cas : BR.Inline.Cas α) (hw : (want && BR.Inline.fits o max f sofar) = false) (hf : BR.Inline.Consistent o f) :
    ∃ s, BR.Inline.maybeInline o max true want f sofar cas = some s ∧ s.field.raw = none ∧ s.sofar = sofar ∧
      (∀ a, f.raw = some a → s.field.dig = some (BR.Inline.trueDigest o a) ∧ s.cas.get (BR.Inline.trueDigest o a) ≠ none) := by
  open BR.Inline in
  unfold maybeInline
  simp only [hw, Bool.not_false, if_true]
  cases hr : f.raw with
  | none => exact ⟨_, rfl, hr, rfl, nofun⟩
  | some a =>
    simp only [foreign_false_of_consistent hf hr, Bool.false_eq_true, if_false]
    split
    · rename_i hg
      exact ⟨_, rfl, rfl, rfl, fun b hb => Option.some.inj hb ▸ ⟨rfl, Option.isSome_iff_ne_none.mp hg⟩⟩
    · rename_i hg
      refine ⟨_, rfl, rfl, rfl, fun b hb => Option.some.inj hb ▸ ⟨rfl, ?_⟩⟩
      simp [get_append_new a (Option.not_isSome_iff_eq_none.mp hg)]

/-- **inline bytes next to a foreign digest are never dropped** (finding F36): a field that is not
inlined on request keeps its bytes inline when the digest stored next to them is not their digest -/
theorem foreign_digest_keeps_inline_bytes {α} (o : BR.Inline.Ops α) (max : Int) (putOk want : Bool) (f : BR.Inline.Field α)
    (sofar : Int) (cas : BR.Inline.Cas α) (a : α) (d : BR.Inline.Digest) (hr : f.raw = some a) (hd : f.dig = some d)
    (hne : d ≠ BR.Inline.trueDigest o a) :
    ∃ s, BR.Inline.maybeInline o max putOk want f sofar cas = some s ∧ s.field.raw = some a := by
  have hfo : BR.Inline.foreign o f a = true := by simp [BR.Inline.foreign, hd, hne]
  -- on either side of the budget test the field comes back as it was
  cases hw : (want && BR.Inline.fits o max f sofar) <;> simp [BR.Inline.maybeInline, hw, hr, hfo]

/-! non-vacuity of the inlining theorems: stdout stored inline (2 MiB) and an output file of 2 MiB by
digest, both requested: the first stays inline, the second does not fit next to it -/
def tokOps : BR.Inline.Ops (String × Int) := { len := fun a => a.2, hash := fun a => a.1 }
example : (BR.Inline.pipeline tokOps BR.Inline.maxInlineSize
    [(true, true, ⟨some ("out", 2097152), none⟩), (true, true, ⟨none, some ⟨"file", 2097152⟩⟩)] 0 [(⟨"file", 2097152⟩, ("file", 2097152))]).map
      (fun r => (r.1.map (fun f => f.raw.isSome), r.2.1)) = some ([true, false], 2097152) := by decide

/-! non-vacuity of the validator theorems: a well-formed result passes; with an absolute path in a
second output file that is what is reported -/
def okHash : String := "aaaaaaaaaaaaaaaaaaaaaaaaaaaaaaaaaaaaaaaaaaaaaaaaaaaaaaaaaaaaaaaa"
example : validate (ActionResult.mk [some ⟨"out/f", some ⟨okHash, 3⟩, false⟩] [] [] [some ⟨"l", "t"⟩] []
    (some ⟨okHash, 0⟩) none) = none := by decide +kernel
example : validate (ActionResult.mk [some ⟨"out/f", some ⟨okHash, 3⟩, false⟩, some ⟨"/abs", some ⟨okHash, 3⟩, false⟩]
    [] [] [] [] none none) = some .absPath := by decide +kernel

#print axioms invalid_rejected
#print axioms invalid_classes
#print axioms valid_iff
#print axioms inlining_preserves_contents
#print axioms inlining_keeps_budget
#print axioms inline_request_honoured
#print axioms not_requested_is_by_digest
#print axioms foreign_digest_keeps_inline_bytes
end BR.Props.C11
